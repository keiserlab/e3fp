/-!
The library `E3fpVerif` is every module under `E3fpVerif/`: the lakefile gives it the glob `E3fpVerif.*`, which also
names this root module, so the file has to exist.  It imports and declares nothing.
-/
