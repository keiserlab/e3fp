import E3fpVerif.Model.Config
/-!
# Decimal text of naturals: `digitsNat?` inverts `natDigits`
-/
namespace E3fpVerif

/-- one step of the fold of `digitsNat?` -/
def digitStep (acc : Option Nat) (c : Char) : Option Nat :=
  match acc, charDigit? c with
  | some a, some d => some (10 * a + d)
  | _, _ => none

theorem digitsNat?_eq (cs : List Char) :
    digitsNat? cs = if cs = [] then none else cs.foldl digitStep (some 0) := rfl

theorem charDigit_digitChar : ∀ d, d < 10 → charDigit? (digitChar d) = some d := by decide +kernel

theorem foldl_digitStep_none (cs : List Char) : cs.foldl digitStep none = none := by
  induction cs with
  | nil => rfl
  | cons c t ih => exact ih

theorem natDigitsAux_ne_nil (fuel n : Nat) : natDigitsAux fuel n ≠ [] := by
  cases fuel with
  | zero => exact List.cons_ne_nil _ _
  | succ f =>
    unfold natDigitsAux
    split <;> simp

theorem natDigits_ne_nil (n : Nat) : natDigits n ≠ [] := natDigitsAux_ne_nil n n

theorem digitStep_digit (a d : Nat) (hd : d < 10) : digitStep (some a) (digitChar d) = some (10 * a + d) := by
  unfold digitStep; rw [charDigit_digitChar d hd]

theorem foldl_natDigitsAux (fuel : Nat) : ∀ n, n ≤ fuel →
    (natDigitsAux fuel n).foldl digitStep (some 0) = some n := by
  induction fuel with
  | zero =>
    intro n hn
    cases Nat.le_zero.mp hn
    rfl
  | succ f ih =>
    intro n hn
    unfold natDigitsAux
    by_cases h10 : n < 10
    · rw [if_pos h10, List.foldl_cons, List.foldl_nil, digitStep_digit 0 n h10, Nat.mul_zero, Nat.zero_add]
    · -- the recursive call is within the fuel: `n / 10 < n ≤ f + 1`
      have hlt := Nat.div_lt_self (Nat.lt_of_lt_of_le (by decide) (Nat.not_lt.1 h10)) (by decide : 1 < 10)
      rw [if_neg h10, List.foldl_append, ih (n / 10) (Nat.le_of_lt_succ (Nat.lt_of_lt_of_le hlt hn)), List.foldl_cons,
        List.foldl_nil, digitStep_digit _ _ (Nat.mod_lt n (by decide)), Nat.div_add_mod]

/-- `int(str(n)) = n` -/
theorem digitsNat_natDigits (n : Nat) : digitsNat? (natDigits n) = some n := by
  rewrite [digitsNat?_eq, if_neg (natDigits_ne_nil n)]
  exact foldl_natDigitsAux n n (Nat.le_refl n)

theorem natDigits_injective (a b : Nat) (h : natDigits a = natDigits b) : a = b := by
  have ha := digitsNat_natDigits a
  rewrite [h, digitsNat_natDigits b] at ha
  exact (Option.some.inj ha).symm

theorem digitsNat?_cons_nondigit (c : Char) (r : List Char) (hc : charDigit? c = none) :
    digitsNat? (c :: r) = none := by
  rewrite [digitsNat?_eq, if_neg (List.cons_ne_nil c r)]
  simp only [List.foldl_cons, digitStep, hc]
  exact foldl_digitStep_none r

theorem natDigits_ne_of_digitsNat?_eq_none (n : Nat) (w : List Char) (hw : digitsNat? w = none) : natDigits n ≠ w := by
  intro e
  rewrite [← e, digitsNat_natDigits] at hw
  cases hw

end E3fpVerif
