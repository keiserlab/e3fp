import E3fpVerif.Model.FpHeap
import E3fpVerif.Lemmas.ListAux
/-!
# Ownership lemmas for the fingerprint object heap (`Model/FpHeap.lean`)

`Inv`: every reference of every object is typed (`WFObj`, read through `Cell.tag`) and no container belongs to two objects.
What is observed of an object (`view`, `cacheRefs`, `WFObj`) depends on the object and its own cells only (`*_congr`).
Every operation has one of six `Shape`s (`step_shape`), each a composition of `alloc`, `allocObj` (together: `allocFp`), `setObj`, `setCell`;
what a step preserves or leaves alone is proved per shape from lemmas per primitive.
-/
namespace E3fpVerif
namespace H

/-! ## the four primitives -/

@[simp] theorem alloc_cells (h : Heap) (c : Cell) : (alloc h c).1.cells = h.cells ++ [c] := rfl
@[simp] theorem alloc_objs (h : Heap) (c : Cell) : (alloc h c).1.objs = h.objs := rfl
@[simp] theorem alloc_ref (h : Heap) (c : Cell) : (alloc h c).2 = h.cells.length := rfl
@[simp] theorem allocObj_cells (h : Heap) (o : FObj) : (allocObj h o).1.cells = h.cells := rfl
@[simp] theorem allocObj_objs (h : Heap) (o : FObj) : (allocObj h o).1.objs = h.objs ++ [o] := rfl
@[simp] theorem allocObj_ref (h : Heap) (o : FObj) : (allocObj h o).2 = h.objs.length := rfl
@[simp] theorem setCell_cells (h : Heap) (r : Ref) (c : Cell) : (setCell h r c).cells = h.cells.set r c := rfl
@[simp] theorem setCell_objs (h : Heap) (r : Ref) (c : Cell) : (setCell h r c).objs = h.objs := rfl
@[simp] theorem setObj_cells (h : Heap) (r : Ref) (o : FObj) : (setObj h r o).cells = h.cells := rfl
@[simp] theorem setObj_objs (h : Heap) (r : Ref) (o : FObj) : (setObj h r o).objs = h.objs.set r o := rfl

theorem alloc_cells_old {h : Heap} {c : Cell} {x : Ref} (hx : x < h.cells.length) :
    (alloc h c).1.cells[x]? = h.cells[x]? :=
  List.getElem?_append_left hx

theorem alloc_cells_new (h : Heap) (c : Cell) : (alloc h c).1.cells[h.cells.length]? = some c :=
  List.getElem?_concat_length

theorem alloc_prefix (h : Heap) (c : Cell) : h.cells <+: (alloc h c).1.cells := List.prefix_append _ _

theorem setCell_cells_ne {h : Heap} {r x : Ref} {c : Cell} (hx : x ≠ r) :
    (setCell h r c).cells[x]? = h.cells[x]? :=
  List.getElem?_set_ne (Ne.symm hx)

theorem setCell_cells_eq {h : Heap} {r : Ref} {c : Cell} (hr : r < h.cells.length) :
    (setCell h r c).cells[r]? = some c :=
  List.getElem?_set_self hr

theorem getObj_setObj_ne {h : Heap} {r x : Ref} {o : FObj} (hx : x ≠ r) :
    getObj (setObj h r o) x = getObj h x :=
  List.getElem?_set_ne (Ne.symm hx)

theorem getObj_setObj_eq {h : Heap} {r : Ref} {o : FObj} (hr : r < h.objs.length) :
    getObj (setObj h r o) r = some o :=
  List.getElem?_set_self hr

theorem getObj_lt {h : Heap} {r : Ref} {o : FObj} (e : getObj h r = some o) : r < h.objs.length :=
  (List.getElem?_eq_some_iff.mp e).1

/-! ## getters -/

/-- the kind of container a cell is, as a number: `WFObj` types references by it; 3 is the fold cache -/
def Cell.tag : Cell → Nat
  | .arr _ => 0 | .cnts _ => 1 | .props _ => 2 | .cache _ => 3 | .i2f _ => 4 | .i2u _ => 5

/-- the getter `g` reads the cells `k a`, and these are the cells of tag `t` -/
structure Reads {α} (g : Heap → Ref → Option α) (k : α → Cell) (t : Nat) : Prop where
  eq_some : ∀ {h x a}, g h x = some a ↔ h.cells[x]? = some (k a)
  tag : ∀ a, (k a).tag = t
  of_tag : ∀ c : Cell, c.tag = t → ∃ a, c = k a

theorem Reads.congr {α} {g : Heap → Ref → Option α} {k : α → Cell} {t : Nat} (r : Reads g k t) {h h' : Heap} {x : Ref}
    (e : h'.cells[x]? = h.cells[x]?) : g h' x = g h x :=
  Option.ext fun a => by rw [r.eq_some, r.eq_some, e]

theorem Reads.isSome {α} {g : Heap → Ref → Option α} {k : α → Cell} {t : Nat} (r : Reads g k t) {h : Heap} {x : Ref} :
    (g h x).isSome ↔ (h.cells[x]?).map Cell.tag = some t := by
  rewrite [Option.isSome_iff_exists, Option.map_eq_some_iff]
  constructor
  · rintro ⟨a, ha⟩
    exact ⟨_, r.eq_some.mp ha, r.tag a⟩
  · rintro ⟨c, hc, ht⟩
    obtain ⟨a, rfl⟩ := r.of_tag c ht
    exact ⟨a, r.eq_some.mpr hc⟩

theorem getArr_reads : Reads getArr .arr 0 where
  eq_some := by
    intro h x a
    unfold getArr
    split
    · rename_i b hb; rw [hb, Option.some_inj, Option.some_inj, Cell.arr.injEq]
    · rename_i hn; exact ⟨nofun, fun e => (hn a e).elim⟩
  tag _ := rfl
  of_tag c e := by cases c <;> cases e; exact ⟨_, rfl⟩

theorem getCnts_reads : Reads getCnts .cnts 1 where
  eq_some := by
    intro h x a
    unfold getCnts
    split
    · rename_i b hb; rw [hb, Option.some_inj, Option.some_inj, Cell.cnts.injEq]
    · rename_i hn; exact ⟨nofun, fun e => (hn a e).elim⟩
  tag _ := rfl
  of_tag c e := by cases c <;> cases e; exact ⟨_, rfl⟩

theorem getProps_reads : Reads getProps .props 2 where
  eq_some := by
    intro h x a
    unfold getProps
    split
    · rename_i b hb; rw [hb, Option.some_inj, Option.some_inj, Cell.props.injEq]
    · rename_i hn; exact ⟨nofun, fun e => (hn a e).elim⟩
  tag _ := rfl
  of_tag c e := by cases c <;> cases e; exact ⟨_, rfl⟩

theorem getCache_reads : Reads getCache .cache 3 where
  eq_some := by
    intro h x a
    unfold getCache
    split
    · rename_i b hb; rw [hb, Option.some_inj, Option.some_inj, Cell.cache.injEq]
    · rename_i hn; exact ⟨nofun, fun e => (hn a e).elim⟩
  tag _ := rfl
  of_tag c e := by cases c <;> cases e; exact ⟨_, rfl⟩

theorem getI2f_reads : Reads getI2f .i2f 4 where
  eq_some := by
    intro h x a
    unfold getI2f
    split
    · rename_i b hb; rw [hb, Option.some_inj, Option.some_inj, Cell.i2f.injEq]
    · rename_i hn; exact ⟨nofun, fun e => (hn a e).elim⟩
  tag _ := rfl
  of_tag c e := by cases c <;> cases e; exact ⟨_, rfl⟩

theorem getI2u_reads : Reads getI2u .i2u 5 where
  eq_some := by
    intro h x a
    unfold getI2u
    split
    · rename_i b hb; rw [hb, Option.some_inj, Option.some_inj, Cell.i2u.injEq]
    · rename_i hn; exact ⟨nofun, fun e => (hn a e).elim⟩
  tag _ := rfl
  of_tag c e := by cases c <;> cases e; exact ⟨_, rfl⟩

theorem getI2u_eq_some {h : Heap} {x : Ref} {a} : getI2u h x = some a ↔ h.cells[x]? = some (.i2u a) :=
  getI2u_reads.eq_some

/-! ## objects: typing and ownership -/

/-- the containers an object refers to -/
def slotRefs (o : FObj) : List Ref := [o.idx, o.props, o.cache] ++ o.cnt.toList ++ o.i2f.toList ++ o.i2u.toList

/-- every reference of `o` leads to a cell of its kind; the cached children and the parent are objects of `h` -/
structure WFObj (h : Heap) (o : FObj) : Prop where
  idx : (getArr h o.idx).isSome
  cnt : ∀ r, o.cnt = some r → (getCnts h r).isSome
  props : (getProps h o.props).isSome
  cache : ∃ c, getCache h o.cache = some c ∧ ∀ e ∈ c, e.2 < h.objs.length
  i2f : ∀ r, o.i2f = some r → (getI2f h r).isSome
  i2u : ∀ r, o.i2u = some r → (getI2u h r).isSome
  unf : ∀ r, o.unfolded = some r → r < h.objs.length

/-- ownership invariant: every object's references are typed, and no container is referred to by two objects -/
structure Inv (h : Heap) : Prop where
  wf : ∀ (r : Ref) (o : FObj), h.objs[r]? = some o → WFObj h o
  sep : ∀ (r1 r2 : Ref) (o1 o2 : FObj), h.objs[r1]? = some o1 → h.objs[r2]? = some o2 → r1 ≠ r2 → ∀ x ∈ slotRefs o1, x ∉ slotRefs o2

theorem mem_slotRefs {o : FObj} {x : Ref} :
    x ∈ slotRefs o ↔ x = o.idx ∨ x = o.props ∨ x = o.cache ∨ o.cnt = some x ∨ o.i2f = some x ∨ o.i2u = some x := by
  simp only [slotRefs, List.mem_append, List.mem_cons, List.not_mem_nil, or_false, Option.mem_toList, or_assoc]

theorem idx_mem_slotRefs {o : FObj} : o.idx ∈ slotRefs o := mem_slotRefs.mpr (.inl rfl)
theorem props_mem_slotRefs {o : FObj} : o.props ∈ slotRefs o := mem_slotRefs.mpr (.inr (.inl rfl))
theorem cache_mem_slotRefs {o : FObj} : o.cache ∈ slotRefs o := mem_slotRefs.mpr (.inr (.inr (.inl rfl)))
theorem cnt_mem_slotRefs {o : FObj} {r : Ref} (hr : o.cnt = some r) : r ∈ slotRefs o :=
  mem_slotRefs.mpr (.inr (.inr (.inr (.inl hr))))
theorem i2f_mem_slotRefs {o : FObj} {r : Ref} (hr : o.i2f = some r) : r ∈ slotRefs o :=
  mem_slotRefs.mpr (.inr (.inr (.inr (.inr (.inl hr)))))
theorem i2u_mem_slotRefs {o : FObj} {r : Ref} (hr : o.i2u = some r) : r ∈ slotRefs o :=
  mem_slotRefs.mpr (.inr (.inr (.inr (.inr (.inr hr)))))

theorem mem_slotRefs_cnt {o : FObj} {r x : Ref} (hx : x ∈ slotRefs { o with cnt := some r }) :
    x = r ∨ x ∈ slotRefs o := by
  rewrite [mem_slotRefs] at hx ⊢
  grind

theorem mem_slotRefs_i2f {o : FObj} {r x : Ref} (hx : x ∈ slotRefs { o with i2f := some r }) :
    x = r ∨ x ∈ slotRefs o := by
  rewrite [mem_slotRefs] at hx ⊢
  grind

theorem WFObj.tag_cache {h : Heap} {o : FObj} (w : WFObj h o) : (h.cells[o.cache]?).map Cell.tag = some 3 := by
  obtain ⟨c, hc, _⟩ := w.cache
  exact getCache_reads.isSome.mp (Option.isSome_of_eq_some hc)

theorem WFObj.slot_tag {h : Heap} {o : FObj} (w : WFObj h o) {x : Ref} (hx : x ∈ slotRefs o) :
    ∃ t, (h.cells[x]?).map Cell.tag = some t ∧ (t = 3 → x = o.cache) := by
  rcases mem_slotRefs.mp hx with rfl | rfl | rfl | e | e | e
  · exact ⟨0, getArr_reads.isSome.mp w.idx, by rintro ⟨⟩⟩
  · exact ⟨2, getProps_reads.isSome.mp w.props, by rintro ⟨⟩⟩
  · exact ⟨3, w.tag_cache, fun _ => rfl⟩
  · exact ⟨1, getCnts_reads.isSome.mp (w.cnt _ e), by rintro ⟨⟩⟩
  · exact ⟨4, getI2f_reads.isSome.mp (w.i2f _ e), by rintro ⟨⟩⟩
  · exact ⟨5, getI2u_reads.isSome.mp (w.i2u _ e), by rintro ⟨⟩⟩

theorem WFObj.slot_lt {h : Heap} {o : FObj} (w : WFObj h o) {x : Ref} (hx : x ∈ slotRefs o) :
    x < h.cells.length := by
  obtain ⟨_, ht, _⟩ := w.slot_tag hx
  obtain ⟨_, hc, _⟩ := Option.map_eq_some_iff.mp ht
  exact (List.getElem?_eq_some_iff.mp hc).1

/-- the cache is a different container from the object's other containers -/
theorem WFObj.ne_cache {h : Heap} {o : FObj} (w : WFObj h o) {x : Ref} (hx : x ∈ slotRefs o) :
    x = o.cache ∨ (h.cells[x]?).map Cell.tag ≠ some 3 := by
  obtain ⟨t, ht, h3⟩ := w.slot_tag hx
  by_cases e : t = 3
  · exact .inl (h3 e)
  · exact .inr (by rewrite [ht]; exact fun e' => e (Option.some.inj e'))

theorem WFObj.congr_tag {h h' : Heap} {o : FObj} (w : WFObj h o)
    (e : ∀ x ∈ slotRefs o, (h'.cells[x]?).map Cell.tag = (h.cells[x]?).map Cell.tag)
    (hc : ∀ c, getCache h' o.cache = some c → ∀ e ∈ c, e.2 < h'.objs.length)
    (hl : h.objs.length ≤ h'.objs.length) : WFObj h' o where
  idx := getArr_reads.isSome.mpr ((e _ idx_mem_slotRefs).trans (getArr_reads.isSome.mp w.idx))
  cnt := fun r hr => getCnts_reads.isSome.mpr ((e _ (cnt_mem_slotRefs hr)).trans (getCnts_reads.isSome.mp (w.cnt r hr)))
  props := getProps_reads.isSome.mpr ((e _ props_mem_slotRefs).trans (getProps_reads.isSome.mp w.props))
  cache :=
    have ⟨c, hc'⟩ := Option.isSome_iff_exists.mp
      (getCache_reads.isSome.mpr ((e _ cache_mem_slotRefs).trans w.tag_cache))
    ⟨c, hc', hc c hc'⟩
  i2f := fun r hr => getI2f_reads.isSome.mpr ((e _ (i2f_mem_slotRefs hr)).trans (getI2f_reads.isSome.mp (w.i2f r hr)))
  i2u := fun r hr => getI2u_reads.isSome.mpr ((e _ (i2u_mem_slotRefs hr)).trans (getI2u_reads.isSome.mp (w.i2u r hr)))
  unf := fun r hr => Nat.lt_of_lt_of_le (w.unf r hr) hl

theorem WFObj.congr {h h' : Heap} {o : FObj} (w : WFObj h o)
    (e : ∀ x ∈ slotRefs o, h'.cells[x]? = h.cells[x]?) (hl : h.objs.length ≤ h'.objs.length) :
    WFObj h' o :=
  w.congr_tag (fun x hx => congrArg _ (e x hx)) (fun c hc => by
    obtain ⟨c', hc', hb⟩ := w.cache
    rewrite [getCache_reads.congr (e _ cache_mem_slotRefs), hc'] at hc
    cases hc
    exact fun e he => Nat.lt_of_lt_of_le (hb e he) hl) hl

/-- `h'` has the objects of `h` except that object `r` is `o'`, replaced or added at the end -/
theorem Inv.of_objs {h h' : Heap} (hinv : Inv h) {r : Ref} {o' : FObj}
    (ho : ∀ (x : Ref) (o1 : FObj), h'.objs[x]? = some o1 → x = r ∧ o1 = o' ∨ x ≠ r ∧ h.objs[x]? = some o1)
    (w' : WFObj h' o') (w : ∀ (x : Ref) (o1 : FObj), h.objs[x]? = some o1 → WFObj h' o1)
    (hs : ∀ (x : Ref) (o1 : FObj), x ≠ r → h.objs[x]? = some o1 → ∀ y ∈ slotRefs o', y ∉ slotRefs o1) : Inv h' where
  wf := by
    intro x o1 h1
    rcases ho x o1 h1 with ⟨_, rfl⟩ | ⟨_, g1⟩
    · exact w'
    · exact w x o1 g1
  sep := by
    intro r1 r2 o1 o2 h1 h2 hne y hy1 hy2
    rcases ho r1 o1 h1 with ⟨e1, rfl⟩ | ⟨n1, g1⟩ <;> rcases ho r2 o2 h2 with ⟨e2, rfl⟩ | ⟨n2, g2⟩
    · exact hne (e1.trans e2.symm)
    · exact hs r2 o2 n2 g2 y hy1 hy2
    · exact hs r1 o1 n1 g1 y hy2 hy1
    · exact hinv.sep r1 r2 o1 o2 g1 g2 hne y hy1 hy2

/-- no object refers to `x` -/
def Unref (h : Heap) (x : Ref) : Prop := ∀ (r : Ref) (o : FObj), h.objs[r]? = some o → x ∉ slotRefs o

/-! ## observers: `absFp`, `view`, `cacheRefs` -/

theorem absFp_congr {h h' : Heap} {o : FObj} (e : ∀ x, x = o.idx ∨ o.cnt = some x → h'.cells[x]? = h.cells[x]?) :
    absFp h' o = absFp h o := by
  unfold absFp
  rewrite [getArr_reads.congr (e o.idx (.inl rfl))]
  cases hc : o.cnt with
  | none => rfl
  | some r => dsimp only; rw [getCnts_reads.congr (e r (.inr hc))]

theorem absFp_eq_some {h : Heap} {o : FObj} {a : List Nat} {c : List (Nat × Rat)} (ha : getArr h o.idx = some a)
    (hc : o.cnt = none ∧ c = [] ∨ ∃ r, o.cnt = some r ∧ getCnts h r = some c) :
    absFp h o = some ⟨o.kind, o.bits, o.level, a, c⟩ := by
  unfold absFp; rewrite [ha]
  rcases hc with ⟨ho, rfl⟩ | ⟨r, ho, hr⟩
  · rw [ho]
  · rewrite [ho]; dsimp only; rw [hr]

theorem absFp_kind {h : Heap} {o : FObj} {v : Fp} (ha : absFp h o = some v) : v.kind = o.kind := by
  unfold absFp at ha
  split at ha
  · cases ha; rfl
  · cases ha

theorem view_eq_some {h : Heap} {r : Ref} {vw : View} :
    view h r = some vw ↔ ∃ o, getObj h r = some o ∧ absFp h o = some vw.val ∧
      getProps h o.props = some vw.props ∧ getCache h o.cache = some vw.cache ∧ o.unfolded = vw.unfolded ∧
      o.i2f.bind (getI2f h) = vw.i2f ∧ o.i2u.bind (getI2u h) = vw.i2u := by
  constructor
  · intro hv
    unfold view at hv
    split at hv
    · cases hv
    · rename_i o ho
      split at hv
      · rename_i v p c ha hp hc
        cases hv
        exact ⟨o, ho, ha, hp, hc, rfl, rfl, rfl⟩
      · cases hv
  · rintro ⟨o, ho, ha, hp, hc, hu, hf, hi⟩
    obtain ⟨val, props, cache, unf, i2f, i2u⟩ := vw
    simp only [view, ho, ha, hp, hc, hu, hf, hi]

theorem view_congr {h h' : Heap} {r : Ref} (eo : getObj h' r = getObj h r)
    (e : ∀ o, getObj h r = some o → ∀ x ∈ slotRefs o, h'.cells[x]? = h.cells[x]?) : view h' r = view h r := by
  unfold view; rewrite [eo]
  cases ho : getObj h r with
  | none => rfl
  | some o =>
    have e' := e o ho
    dsimp only
    rw [absFp_congr (fun x hx => e' x (mem_slotRefs.mpr (hx.elim .inl fun hc => .inr (.inr (.inr (.inl hc)))))),
      getProps_reads.congr (e' _ props_mem_slotRefs), getCache_reads.congr (e' _ cache_mem_slotRefs),
      Option.bind_congr fun x hi => getI2f_reads.congr (e' x (i2f_mem_slotRefs hi)),
      Option.bind_congr fun x hi => getI2u_reads.congr (e' x (i2u_mem_slotRefs hi))]

theorem view_ge {h : Heap} {r : Nat} (hr : h.objs.length ≤ r) : view h r = none := by
  simp only [view, getObj, List.getElem?_eq_none hr]

theorem view_ext {h h' : Heap} {r : Ref} (hinv : Inv h) (eo : getObj h' r = getObj h r)
    (ec : ∀ x, x < h.cells.length → h'.cells[x]? = h.cells[x]?) : view h' r = view h r :=
  view_congr eo (fun o ho x hx => ec x ((hinv.wf r o ho).slot_lt hx))

/-- the objects stored in r's fold cache -/
def cacheRefs (h : Heap) (r : Ref) : List Ref :=
  match getObj h r with
  | some o => (match getCache h o.cache with | some c => c.map (·.2) | none => [])
  | none => []

theorem cacheRefs_eq {h : Heap} {r : Ref} {o : FObj} {c : List ((Nat × Nat) × Ref)} (ho : getObj h r = some o)
    (hc : getCache h o.cache = some c) : cacheRefs h r = c.map (·.2) := by
  simp only [cacheRefs, ho, hc]

theorem cacheRefs_congr {h h' : Heap} {r : Ref} (eo : getObj h' r = getObj h r)
    (e : ∀ o, getObj h r = some o → getCache h' o.cache = getCache h o.cache) :
    cacheRefs h' r = cacheRefs h r := by
  unfold cacheRefs; rewrite [eo]
  cases ho : getObj h r with
  | none => rfl
  | some o => dsimp only; rw [e o ho]

theorem cacheRefs_ge {h : Heap} {r : Nat} (hr : h.objs.length ≤ r) : cacheRefs h r = [] := by
  simp only [cacheRefs, getObj, List.getElem?_eq_none hr]

theorem cacheRefs_ext {h h' : Heap} {r : Ref} (hinv : Inv h) (eo : getObj h' r = getObj h r)
    (ec : ∀ x, x < h.cells.length → h'.cells[x]? = h.cells[x]?) : cacheRefs h' r = cacheRefs h r :=
  cacheRefs_congr eo (fun o ho => getCache_reads.congr (ec _ ((hinv.wf r o ho).slot_lt cache_mem_slotRefs)))

theorem cacheRefs_lt {h : Heap} (hinv : Inv h) {s c : Ref} (hc : c ∈ cacheRefs h s) : c < h.objs.length := by
  cases ho : getObj h s with
  | none => simp [cacheRefs, ho] at hc
  | some o =>
    obtain ⟨cc, hcc, hb⟩ := (hinv.wf s o ho).cache
    rewrite [cacheRefs_eq ho hcc] at hc
    obtain ⟨e, he, rfl⟩ := List.mem_map.mp hc
    exact hb e he

/-! ## `alloc`, `setObj`, `setCell` -/

theorem inv_alloc {h : Heap} (hinv : Inv h) (c : Cell) : Inv (alloc h c).1 where
  wf := fun r o ho =>
    have w := hinv.wf r o ho
    w.congr (fun _ hx => alloc_cells_old (w.slot_lt hx)) (Nat.le_refl _)
  sep := hinv.sep

theorem view_alloc {h : Heap} (hinv : Inv h) (c : Cell) (r : Ref) : view (alloc h c).1 r = view h r :=
  view_ext hinv rfl (fun _ hx => alloc_cells_old hx)

theorem cacheRefs_alloc {h : Heap} (hinv : Inv h) (c : Cell) (r : Ref) :
    cacheRefs (alloc h c).1 r = cacheRefs h r :=
  cacheRefs_ext hinv rfl (fun _ hx => alloc_cells_old hx)

theorem unref_alloc {h : Heap} (hinv : Inv h) (c : Cell) : Unref (alloc h c).1 h.cells.length := by
  intro r o ho hx
  exact Nat.lt_irrefl _ ((hinv.wf r o ho).slot_lt hx)

theorem inv_setObj {h : Heap} {r : Ref} {o o' : FObj} (hinv : Inv h) (ho : getObj h r = some o)
    (w : WFObj h o') (hs : ∀ x ∈ slotRefs o', x ∈ slotRefs o ∨ Unref h x) : Inv (setObj h r o') :=
  hinv.of_objs (fun _ _ h1 => getElem?_set_some h1) (w.congr (fun _ _ => rfl) (by simp))
    (fun x o1 h1 => (hinv.wf x o1 h1).congr (fun _ _ => rfl) (by simp))
    -- the slots of the new `o'` are slots of the old `o` or unreferenced: either way no other object has them
    fun r2 o2 hne h2 x hx => (hs x hx).elim (fun hx => hinv.sep r r2 o o2 ho h2 (Ne.symm hne) x hx) fun hx => hx r2 o2 h2

theorem view_setObj_ne {h : Heap} {r r' : Ref} {o' : FObj} (hne : r' ≠ r) :
    view (setObj h r o') r' = view h r' :=
  view_congr (getObj_setObj_ne hne) (fun _ _ _ _ => rfl)

theorem view_setObj_i2f {h : Heap} {r x : Ref} {o : FObj} {vw : View} {m : List (Nat × Nat)}
    (ho : getObj h r = some o) (hv : view h r = some vw) (hx : getI2f h x = some m) :
    view (setObj h r { o with i2f := some x }) r = some { vw with i2f := some m } := by
  obtain ⟨o', ho', ha, hp, hc, hu, _, hi⟩ := view_eq_some.mp hv
  cases ho.symm.trans ho'
  exact view_eq_some.mpr ⟨_, getObj_setObj_eq (getObj_lt ho), ha, hp, hc, hu, hx, hi⟩

theorem cacheRefs_setObj {h : Heap} {t : Ref} {o o' : FObj} (ho : getObj h t = some o) (hc : o'.cache = o.cache)
    (s : Ref) : cacheRefs (setObj h t o') s = cacheRefs h s := by
  by_cases hst : s = t
  · subst hst; simp only [cacheRefs, getObj_setObj_eq (getObj_lt ho), ho, hc, getCache, setObj_cells]
  · exact cacheRefs_congr (getObj_setObj_ne hst) (fun _ _ => rfl)

theorem tag_setCell {h : Heap} {x : Ref} {c0 c : Cell} (h0 : h.cells[x]? = some c0) (ht : c0.tag = c.tag)
    (y : Ref) : ((setCell h x c).cells[y]?).map Cell.tag = (h.cells[y]?).map Cell.tag := by
  by_cases hy : y = x
  · subst hy
    rewrite [setCell_cells_eq (List.getElem?_eq_some_iff.mp h0).1, h0]; simp [ht]
  · rw [setCell_cells_ne hy]

theorem inv_setCell {h : Heap} {x : Ref} {c0 c : Cell} (hinv : Inv h) (h0 : h.cells[x]? = some c0)
    (ht : c0.tag = c.tag) (hc : ∀ d, c = .cache d → ∀ e ∈ d, e.2 < h.objs.length) : Inv (setCell h x c) where
  wf := by
    intro r o ho
    have w := hinv.wf r o ho
    refine w.congr_tag (fun y _ => tag_setCell h0 ht y) (fun d hd => ?_) (Nat.le_refl _)
    by_cases hy : o.cache = x
    · rewrite [getCache_reads.eq_some, hy, setCell_cells_eq (List.getElem?_eq_some_iff.mp h0).1] at hd
      exact hc d (Option.some.inj hd)
    · obtain ⟨cc, hcc, hb⟩ := w.cache
      rewrite [getCache_reads.congr (setCell_cells_ne hy), hcc] at hd
      cases hd; exact hb
  sep := hinv.sep

theorem view_setCell_ne {h : Heap} {x r : Ref} {c : Cell}
    (hx : ∀ o, getObj h r = some o → x ∉ slotRefs o) : view (setCell h x c) r = view h r :=
  view_congr rfl (fun o ho _ hy => setCell_cells_ne (fun e => hx o ho (e ▸ hy)))

theorem cacheRefs_setCell_ne {h : Heap} {x s : Ref} {c : Cell} (hx : ∀ o, getObj h s = some o → o.cache ≠ x) :
    cacheRefs (setCell h x c) s = cacheRefs h s :=
  cacheRefs_congr rfl fun o ho => getCache_reads.congr (setCell_cells_ne (hx o ho))

theorem view_setCell_cache {h : Heap} {r : Ref} {o : FObj} {vw : View} (ho : getObj h r = some o)
    (w : WFObj h o) (hv : view h r = some vw) (d : List ((Nat × Nat) × Ref)) :
    view (setCell h o.cache (.cache d)) r = some { vw with cache := d } := by
  obtain ⟨o', ho', ha, hp, hc, hu, hf, hi⟩ := view_eq_some.mp hv
  cases ho.symm.trans ho'
  have keep : ∀ {x : Ref} {t}, (h.cells[x]?).map Cell.tag = some t → t ≠ 3 →
      (setCell h o.cache (.cache d)).cells[x]? = h.cells[x]? := by
    intro x t hx ht
    refine setCell_cells_ne ?_
    rintro rfl
    rewrite [w.tag_cache] at hx
    cases hx; exact ht rfl
  refine view_eq_some.mpr ⟨o, ho, ?_, ?_, ?_, hu, ?_, ?_⟩
  · refine (absFp_congr ?_).trans ha
    rintro x (rfl | hx)
    · exact keep (getArr_reads.isSome.mp w.idx) (by decide)
    · exact keep (getCnts_reads.isSome.mp (w.cnt x hx)) (by decide)
  · exact (getProps_reads.congr (keep (getProps_reads.isSome.mp w.props) (by decide))).trans hp
  · exact getCache_reads.eq_some.mpr (setCell_cells_eq (w.slot_lt cache_mem_slotRefs))
  · exact (Option.bind_congr fun x hx =>
      getI2f_reads.congr (keep (getI2f_reads.isSome.mp (w.i2f x hx)) (by decide))).trans hf
  · exact (Option.bind_congr fun x hx =>
      getI2u_reads.congr (keep (getI2u_reads.isSome.mp (w.i2u x hx)) (by decide))).trans hi

theorem setCache_spec {h h' : Heap} {src : Ref} {o : FObj} {d : List ((Nat × Nat) × Ref)} (hinv : Inv h)
    (ho : getObj h src = some o) (hd : ∀ e ∈ d, e.2 < h.objs.length) (e' : h' = setCell h o.cache (.cache d)) :
    Inv h' ∧ (∀ r, r ≠ src → view h' r = view h r ∧ cacheRefs h' r = cacheRefs h r) ∧
      (∀ vw, view h src = some vw → view h' src = some { vw with cache := d }) ∧ cacheRefs h' src = d.map (·.2) := by
  subst e'
  have w := hinv.wf src o ho
  obtain ⟨c0, hc0, _⟩ := w.cache
  have h0 := getCache_reads.eq_some.mp hc0
  have sep : ∀ r o_r, r ≠ src → getObj h r = some o_r → o.cache ∉ slotRefs o_r := fun r o_r hn hor =>
    hinv.sep src r o o_r ho hor (Ne.symm hn) o.cache cache_mem_slotRefs
  refine ⟨inv_setCell hinv h0 rfl fun d' hd' => by cases hd'; exact hd, fun r hn => ⟨?_, ?_⟩,
    fun vw hvw => view_setCell_cache ho w hvw d, ?_⟩
  · exact view_setCell_ne fun o_r hor => sep r o_r hn hor
  · exact cacheRefs_setCell_ne fun o_r hor e => sep r o_r hn hor (mem_slotRefs.mpr (.inr (.inr (.inl e.symm))))
  · exact cacheRefs_eq (h := setCell h o.cache _) ho
      (getCache_reads.eq_some.mpr (setCell_cells_eq (List.getElem?_eq_some_iff.mp h0).1))

/-! ## `allocFp` builds an object out of new cells only -/

/-- what `allocFp h v props i2u unf` returns (`allocFp_spec`): `h'` is `h` with one more object `o`, whose cells all lie above those
of `h` (`fresh`) and hold `v` (`abs`: without its counts if `v` is a bit fingerprint), `props`, an empty cache and `i2u`; `arr`, `cntT`, `i2uT` are the typing `WFObj` asks for -/
structure FreshObj (h : Heap) (v : Fp) (props : List (String × PVal)) (i2u : Option (List (Nat × List Nat)))
    (unf : Option Ref) (h' : Heap) (o : FObj) : Prop where
  objs : h'.objs = h.objs ++ [o]
  cells_old : ∀ x, x < h.cells.length → h'.cells[x]? = h.cells[x]?
  fresh : ∀ x ∈ slotRefs o, h.cells.length ≤ x
  abs : absFp h' o = some ⟨v.kind, v.bits, v.level, v.idx, if v.kind = .bit then [] else v.cnt⟩
  arr : (getArr h' o.idx).isSome
  cntT : ∀ r, o.cnt = some r → (getCnts h' r).isSome
  props : getProps h' o.props = some props
  cache : getCache h' o.cache = some []
  i2f : o.i2f = none
  unf : o.unfolded = unf
  i2u : o.i2u.bind (getI2u h') = i2u
  i2uT : ∀ r, o.i2u = some r → (getI2u h' r).isSome

def allocOpt (h : Heap) : Option Cell → Heap × Option Ref
  | none => (h, none)
  | some c => ((alloc h c).1, some (alloc h c).2)

@[simp] theorem allocOpt_objs (h : Heap) (oc : Option Cell) : (allocOpt h oc).1.objs = h.objs := by
  cases oc <;> rfl

theorem allocOpt_prefix (h : Heap) (oc : Option Cell) : h.cells <+: (allocOpt h oc).1.cells := by
  cases oc with
  | none => exact List.prefix_rfl
  | some c => exact alloc_prefix h c

theorem allocOpt_some {h : Heap} {oc : Option Cell} {r : Ref} (e : (allocOpt h oc).2 = some r) :
    r = h.cells.length ∧ ∃ c, oc = some c ∧ (allocOpt h oc).1.cells[r]? = some c := by
  cases oc with
  | none => cases e
  | some c => cases e; exact ⟨rfl, c, rfl, alloc_cells_new h c⟩

/-- `allocFp` as a straight line of allocations: the two optional containers through `allocOpt` -/
theorem allocFp_eq (h : Heap) (v : Fp) (props : List (String × PVal)) (i2u : Option (List (Nat × List Nat)))
    (unf : Option Ref) :
    allocFp h v props i2u unf =
      let a := alloc h (.arr v.idx)
      let b := allocOpt a.1 (if v.kind = .bit then none else some (.cnts v.cnt))
      let c := alloc b.1 (.props props)
      let d := alloc c.1 (.cache [])
      let e := allocOpt d.1 (i2u.map .i2u)
      let o : FObj := ⟨v.kind, v.bits, v.level, h.cells.length, b.2, b.1.cells.length, c.1.cells.length, none, unf, e.2⟩
      allocObj e.1 o := by
  unfold allocFp
  cases v.kind <;> cases i2u <;> rfl

theorem allocFp_spec (h : Heap) (v : Fp) (props : List (String × PVal)) (i2u : Option (List (Nat × List Nat)))
    (unf : Option Ref) :
    ∃ o, FreshObj h v props i2u unf (allocFp h v props i2u unf).1 o ∧
      (allocFp h v props i2u unf).2 = h.objs.length := by
  rewrite [allocFp_eq]
  extract_lets a b c d e o
  -- each allocation only extends the cell list, so a cell allocated on the way is still there at the end
  have pa : h.cells <+: a.1.cells := alloc_prefix ..
  have pb : a.1.cells <+: b.1.cells := allocOpt_prefix ..
  have pc : b.1.cells <+: c.1.cells := alloc_prefix ..
  have pd : c.1.cells <+: d.1.cells := alloc_prefix ..
  have pe : d.1.cells <+: e.1.cells := allocOpt_prefix ..
  have hidx : e.1.cells[h.cells.length]? = some (.arr v.idx) :=
    getElem?_of_prefix (pb.trans (pc.trans (pd.trans pe))) (alloc_cells_new ..)
  have hprops : e.1.cells[b.1.cells.length]? = some (.props props) :=
    getElem?_of_prefix (pd.trans pe) (alloc_cells_new ..)
  have hcache : e.1.cells[c.1.cells.length]? = some (.cache []) := getElem?_of_prefix pe (alloc_cells_new ..)
  have hcnt : ∀ r, b.2 = some r → v.kind ≠ .bit ∧ e.1.cells[r]? = some (.cnts v.cnt) := by
    intro r hr
    obtain ⟨_, c', hc', hr'⟩ := allocOpt_some hr
    split at hc'
    · cases hc'
    · cases hc'; exact ⟨‹_›, getElem?_of_prefix (pc.trans (pd.trans pe)) hr'⟩
  have hi2u : ∀ r, e.2 = some r → ∃ m, i2u = some m ∧ e.1.cells[r]? = some (.i2u m) := by
    intro r hr
    obtain ⟨_, c', hc', hr'⟩ := allocOpt_some hr
    cases i2u with
    | none => cases hc'
    | some m => cases hc'; exact ⟨m, rfl, hr'⟩
  have hobjs : e.1.objs = h.objs := by simp only [e, d, c, b, a, allocOpt_objs, alloc_objs]
  refine ⟨o, ⟨congrArg (· ++ [_]) hobjs, ?_, ?_, ?_, ?_, ?_, ?_, ?_, rfl, rfl, ?_, ?_⟩, congrArg List.length hobjs⟩
  · intro x hx
    obtain ⟨c', hc'⟩ : ∃ c', h.cells[x]? = some c' := ⟨_, List.getElem?_eq_getElem hx⟩
    rewrite [hc']
    exact getElem?_of_prefix (pa.trans (pb.trans (pc.trans (pd.trans pe)))) hc'
  · intro x hx
    rcases mem_slotRefs.mp hx with rfl | rfl | rfl | hx | hx | hx
    · exact Nat.le_refl _
    · exact (pa.trans pb).length_le
    · exact (pa.trans (pb.trans pc)).length_le
    · rewrite [(allocOpt_some hx).1]; exact pa.length_le
    · cases hx
    · rewrite [(allocOpt_some hx).1]; exact (pa.trans (pb.trans (pc.trans pd))).length_le
  · refine absFp_eq_some (getArr_reads.eq_some.mpr hidx) ?_
    cases hb : b.2 with
    | none =>
      by_cases hk : v.kind = .bit
      · exact .inl ⟨hb, if_pos hk⟩
      · simp [b, allocOpt, hk] at hb
    | some r =>
      obtain ⟨hk, hr⟩ := hcnt r hb
      exact .inr ⟨r, hb, by simp only [hk, if_false]; exact getCnts_reads.eq_some.mpr hr⟩
  · exact Option.isSome_of_eq_some (getArr_reads.eq_some.mpr hidx)
  · intro r hr; exact Option.isSome_of_eq_some (getCnts_reads.eq_some.mpr (hcnt r hr).2)
  · exact getProps_reads.eq_some.mpr hprops
  · exact getCache_reads.eq_some.mpr hcache
  · show e.2.bind (getI2u (allocObj e.1 o).1) = i2u
    cases he : e.2 with
    | none => cases i2u with
      | none => rfl
      | some m => cases he
    | some r =>
      obtain ⟨m, hm', hm⟩ := hi2u r he
      rewrite [hm']
      exact getI2u_reads.eq_some.mpr hm
  · intro r hr
    obtain ⟨m, _, hm⟩ := hi2u r hr
    exact Option.isSome_of_eq_some (getI2u_reads.eq_some.mpr hm)

theorem FreshObj.getObj_old {h v props i2u unf h' o} (f : FreshObj h v props i2u unf h' o) {r : Nat}
    (hr : r < h.objs.length) : getObj h' r = getObj h r := by
  rewrite [getObj, f.objs]; exact List.getElem?_append_left hr

theorem FreshObj.getObj_new {h v props i2u unf h' o} (f : FreshObj h v props i2u unf h' o) :
    getObj h' h.objs.length = some o := by
  rewrite [getObj, f.objs]; exact List.getElem?_concat_length

theorem FreshObj.length {h v props i2u unf h' o} (f : FreshObj h v props i2u unf h' o) :
    h'.objs.length = h.objs.length + 1 := by
  simp [f.objs]

theorem allocFp_length (h : Heap) (v : Fp) (props : List (String × PVal)) (i2u : Option (List (Nat × List Nat)))
    (unf : Option Ref) : (allocFp h v props i2u unf).1.objs.length = h.objs.length + 1 :=
  let ⟨_, f, _⟩ := allocFp_spec h v props i2u unf
  f.length

theorem FreshObj.inv {h v props i2u unf h' o} (f : FreshObj h v props i2u unf h' o) (hinv : Inv h)
    (hu : ∀ u, unf = some u → u ≤ h.objs.length) : Inv h' :=
  hinv.of_objs (fun _ _ h1 => getElem?_snoc (f.objs ▸ h1))
    ⟨f.arr, f.cntT, Option.isSome_of_eq_some f.props, ⟨[], f.cache, nofun⟩, by simp [f.i2f], f.i2uT, fun r hr => by
      rewrite [f.length]; exact Nat.lt_succ_of_le (hu r (f.unf ▸ hr))⟩
    (fun x o1 h1 =>
      have w := hinv.wf x o1 h1
      w.congr (fun y hy => f.cells_old y (w.slot_lt hy)) (by simp [f.objs]))
    -- an old object's containers lie below `h.cells.length`, the new object's at or above it
    fun x o1 _ h1 y hy hy1 => Nat.lt_irrefl _ (Nat.lt_of_lt_of_le ((hinv.wf x o1 h1).slot_lt hy1) (f.fresh y hy))

theorem FreshObj.unref {h v props i2u unf h' o} (f : FreshObj h v props i2u unf h' o) {x : Nat}
    (hu : Unref h x) (hx : x < h.cells.length) : Unref h' x := by
  intro r o1 h1 hx1
  rcases getElem?_snoc (f.objs ▸ h1) with ⟨_, rfl⟩ | ⟨_, h1⟩
  · exact Nat.not_le_of_lt hx (f.fresh x hx1)
  · exact hu r o1 h1 hx1

theorem FreshObj.view_old {h v props i2u unf h' o} (f : FreshObj h v props i2u unf h' o) (hinv : Inv h)
    {r : Nat} (hr : r < h.objs.length) : view h' r = view h r :=
  view_ext hinv (f.getObj_old hr) f.cells_old

theorem FreshObj.cacheRefs {h v props i2u unf h' o} (f : FreshObj h v props i2u unf h' o) (hinv : Inv h)
    (s : Nat) : cacheRefs h' s = cacheRefs h s := by
  rcases Nat.lt_trichotomy s h.objs.length with hs | rfl | hs
  · exact cacheRefs_ext hinv (f.getObj_old hs) f.cells_old
  · rewrite [cacheRefs_eq f.getObj_new f.cache, cacheRefs_ge (Nat.le_refl _)]; rfl
  · rw [cacheRefs_ge (by rewrite [f.length]; exact hs), cacheRefs_ge (Nat.le_of_lt hs)]

/-- the value of a newly allocated object (`FreshObj.abs`): a bit fingerprint stores no counts -/
def Fp.norm (w : Fp) : Fp := ⟨w.kind, w.bits, w.level, w.idx, if w.kind = .bit then [] else w.cnt⟩

theorem Fp.norm_eq {w : Fp} (h : w.kind = .bit → w.cnt = []) : Fp.norm w = w := by
  unfold Fp.norm
  by_cases hk : w.kind = .bit
  · rw [if_pos hk, ← h hk]
  · rw [if_neg hk]

theorem FreshObj.view_new {h v props i2u unf h' o} (f : FreshObj h v props i2u unf h' o) :
    view h' h.objs.length =
      some ⟨Fp.norm v, props, [], unf, none, i2u⟩ :=
  view_eq_some.mpr ⟨o, f.getObj_new, f.abs, f.props, f.cache, f.unf, by rewrite [f.i2f]; rfl, f.i2u⟩

/-! ## dictionaries -/

theorem mem_dictSet {α β} [DecidableEq α] {d : List (α × β)} {k : α} {v : β} {e : α × β}
    (he : e ∈ dictSet d k v) : e ∈ d ∨ e = (k, v) := by
  induction d with
  | nil => exact .inr (List.mem_singleton.mp he)
  | cons p rest ih =>
    obtain ⟨k', v'⟩ := p
    dsimp only [dictSet] at he
    grind

theorem dictGet_mem {α β} [DecidableEq α] {d : List (α × β)} {k : α} {v : β}
    (he : dictGet d k = some v) : (k, v) ∈ d := by
  induction d with
  | nil => cases he
  | cons p rest ih =>
    obtain ⟨k', v'⟩ := p
    dsimp only [dictGet] at he
    grind

theorem dictGet_dictSet_self {α β} [DecidableEq α] (d : List (α × β)) (k : α) (v : β) :
    dictGet (dictSet d k v) k = some v := by
  induction d with
  | nil => exact if_pos rfl
  | cons p rest ih =>
    obtain ⟨k', v'⟩ := p
    dsimp only [dictSet]
    by_cases hk : k' = k
    · rewrite [if_pos hk]; exact if_pos rfl
    · rewrite [if_neg hk]; exact (if_neg hk).trans ih

/-! ## what a new fold builds -/

/-- the heap and child a fold builds when `(bits, method)` is not cached -/
def foldNew (h : Heap) (src : Ref) (o : FObj) (v : Fp) (p : List (String × PVal))
    (cache : List ((Nat × Nat) × Ref)) (bits method : Nat) (linked : Bool) (w : Fp) : Heap × Ref :=
  let (h1, rf) := alloc h (.i2f (v.foldMap bits method))
  let (h2, child) := allocFp h1 w (dictUpdate [] p) (some (v.unfoldMap bits method))
                       (if linked then some src else none)
  let h3 := setObj h2 src { o with i2f := some rf }
  let h4 := if linked then setCell h3 o.cache (.cache (dictSet cache (bits, method) child)) else h3
  (h4, child)

/-- all that is used of `foldNew`: the child is the one new object, built of new cells; `Inv` is kept; no other old object changes;
the source gains the folding map and, when `linked`, the cache entry -/
structure FoldNewSpec (h : Heap) (src : Ref) (v : Fp) (p : List (String × PVal))
    (cache : List ((Nat × Nat) × Ref)) (bits method : Nat) (linked : Bool) (w : Fp) (h4 : Heap) (child : Ref) :
    Prop where
  child : child = h.objs.length
  len : h4.objs.length = h.objs.length + 1
  inv : Inv h4
  frame : ∀ r : Nat, r < h.objs.length → r ≠ src → view h4 r = view h r
  newSlots : ∀ o', getObj h4 h.objs.length = some o' → ∀ x ∈ slotRefs o', h.cells.length ≤ x
  cacheSub : ∀ s c, c ∈ cacheRefs h4 s → c ∈ cacheRefs h s ∨ c = h.objs.length ∧ s = src
  viewChild : view h4 h.objs.length =
    some ⟨Fp.norm w, dictUpdate [] p, [],
      if linked then some src else none, none, some (v.unfoldMap bits method)⟩
  viewSrc : ∀ vw, view h src = some vw → view h4 src =
    some { vw with cache := if linked then dictSet cache (bits, method) h.objs.length else vw.cache,
                   i2f := some (v.foldMap bits method) }

/-- `foldNew_spec` with the result `A` of `allocFp` and the heap `h3` after `setObj` as variables: of `A` only `FreshObj` is used, so
`allocFp` is never unfolded; the proof follows `foldNew` line by line (`alloc`, `allocFp`, `setObj`, `setCell` when `linked`) -/
theorem foldNew_spec_aux {h : Heap} {src : Ref} {o : FObj} {v : Fp} {p : List (String × PVal)}
    {cache : List ((Nat × Nat) × Ref)} {bits method : Nat} {linked : Bool} {w : Fp} (hinv : Inv h)
    (ho : getObj h src = some o) (hc : getCache h o.cache = some cache) {A : Heap × Ref} {oc : FObj}
    (f : FreshObj (alloc h (.i2f (v.foldMap bits method))).1 w (dictUpdate [] p)
      (some (v.unfoldMap bits method)) (if linked then some src else none) A.1 oc)
    (hA : A.2 = h.objs.length) {h3 : Heap} (e3 : h3 = setObj A.1 src { o with i2f := some h.cells.length }) :
    FoldNewSpec h src v p cache bits method linked w
      (if linked then setCell h3 o.cache (.cache (dictSet cache (bits, method) A.2)) else h3) A.2 := by
  have hsrc : src < h.objs.length := getObj_lt ho
  have inv1 : Inv (alloc h (.i2f (v.foldMap bits method))).1 := inv_alloc hinv _
  have hu : ∀ u, (if linked then some src else none) = some u →
      u ≤ (alloc h (.i2f (v.foldMap bits method))).1.objs.length := by
    intro u hu'
    cases linked
    · cases hu'
    · cases hu'; exact Nat.le_of_lt hsrc
  have inv2 := f.inv inv1 hu
  have ho2 : getObj A.1 src = some o := (f.getObj_old (r := src) hsrc).trans ho
  have hrf : A.1.cells[h.cells.length]? = some (Cell.i2f (v.foldMap bits method)) :=
    (f.cells_old h.cells.length (by simp)).trans (alloc_cells_new h _)
  have inv3 : Inv h3 := e3 ▸ inv_setObj inv2 ho2
    { inv2.wf src o ho2 with i2f := by intro r hr; cases hr; rewrite [getI2f_reads.isSome, hrf]; rfl }
    fun x hx => (mem_slotRefs_i2f hx).elim (fun e => .inr (e ▸ f.unref (unref_alloc hinv _) (by simp))) .inl
  have ho3 : getObj h3 src = some { o with i2f := some h.cells.length } :=
    e3 ▸ getObj_setObj_eq (getObj_lt ho2)
  have hne : h.objs.length ≠ src := Nat.ne_of_gt hsrc
  have old3 : ∀ r : Nat, r < h.objs.length → view A.1 r = view h r :=
    fun r hr => (f.view_old inv1 hr).trans (view_alloc hinv _ r)
  have frame3 : ∀ r : Nat, r < h.objs.length → r ≠ src → view h3 r = view h r :=
    fun r hr hn => e3 ▸ (view_setObj_ne hn).trans (old3 r hr)
  have child3 : getObj h3 h.objs.length = some oc := e3 ▸ (getObj_setObj_ne hne).trans f.getObj_new
  have viewChild3 : view h3 h.objs.length = _ := e3 ▸ (view_setObj_ne hne).trans f.view_new
  have viewSrc3 : ∀ vw, view h src = some vw → view h3 src = some { vw with i2f := some (v.foldMap bits method) } :=
    fun vw hvw => e3 ▸ view_setObj_i2f ho2 ((old3 src hsrc).trans hvw) (getI2f_reads.eq_some.mpr hrf)
  have len3 : h3.objs.length = h.objs.length + 1 := by simp [e3, f.length]
  have fresh3 : ∀ o', getObj h3 h.objs.length = some o' → ∀ x ∈ slotRefs o', h.cells.length ≤ x :=
    fun o' ho' x hx => by
      cases child3.symm.trans ho'
      exact Nat.le_trans (alloc_prefix h _).length_le (f.fresh x hx)
  have cache3 : ∀ s, cacheRefs h3 s = cacheRefs h s := fun s =>
    e3 ▸ (cacheRefs_setObj (o' := { o with i2f := some h.cells.length }) ho2 rfl s).trans
      ((f.cacheRefs inv1 s).trans (cacheRefs_alloc hinv _ s))
  cases linked with
  | false =>
    exact ⟨hA, len3, inv3, frame3, fresh3, fun s c hc' => .inl (cache3 s ▸ hc'), viewChild3, viewSrc3⟩
  | true =>
    obtain ⟨inv4, fr, vs, cs⟩ := setCache_spec (d := dictSet cache (bits, method) A.2) inv3 ho3 (by
      intro e he
      rewrite [len3]
      rcases mem_dictSet he with he | rfl
      · obtain ⟨c, hc', hbd⟩ := (hinv.wf src o ho).cache
        cases hc.symm.trans hc'
        exact Nat.lt_succ_of_lt (hbd e he)
      · rewrite [hA]; exact Nat.lt_succ_self _) rfl
    refine ⟨hA, len3, inv4, fun r hr hn => (fr r hn).1.trans (frame3 r hr hn), fresh3, ?_,
      (fr _ hne).1.trans viewChild3, fun vw hvw => hA ▸ vs _ (viewSrc3 vw hvw)⟩
    intro s c hc'
    by_cases hs : s = src
    · subst hs
      rewrite [if_pos rfl, cs] at hc'
      obtain ⟨e, he, rfl⟩ := List.mem_map.mp hc'
      rcases mem_dictSet he with he | rfl
      · exact .inl (cacheRefs_eq ho hc ▸ List.mem_map.mpr ⟨e, he, rfl⟩)
      · exact .inr ⟨hA, rfl⟩
    · rewrite [if_pos rfl, (fr s hs).2, cache3] at hc'
      exact .inl hc'

theorem foldNew_spec {h : Heap} {src : Ref} {o : FObj} {v : Fp} {p : List (String × PVal)}
    {cache : List ((Nat × Nat) × Ref)} (bits method : Nat) (linked : Bool) (w : Fp) (hinv : Inv h)
    (ho : getObj h src = some o) (hc : getCache h o.cache = some cache) :
    FoldNewSpec h src v p cache bits method linked w
      (foldNew h src o v p cache bits method linked w).1 (foldNew h src o v p cache bits method linked w).2 := by
  obtain ⟨oc, f, hA⟩ := allocFp_spec (alloc h (.i2f (v.foldMap bits method))).1 w (dictUpdate [] p)
    (some (v.unfoldMap bits method)) (if linked then some src else none)
  exact foldNew_spec_aux hinv ho hc f hA rfl

/-! ## the shapes of a step -/

/-- the object an operation is applied to (the only pre-existing object it may change, apart from a fold's cached child) -/
def target : Op → Option Ref
  | .fold src _ _ _ _ => some src
  | .setProp o _ _ | .setName o _ | .setLevel o _ | .pokeIdx o _ _ | .pokeCount o _ _ | .setCounts o _ => some o
  | _ => none

def isFold : Op → Bool
  | .fold .. => true
  | _ => false

/-- the operations that always build a new object -/
def builds : Op → Bool
  | .new .. | .fromFp .. | .setOp .. | .addSub .. | .scalar .. | .batch .. => true
  | _ => false

/-- the six ways an operation can change the heap -/
inductive Shape (h : Heap) (op : Op) : Heap → Ans → Prop
  /-- nothing changes: a refusal, an operation on what is no live object, an empty batch, a cached fold of a bit fingerprint -/
  | same (a : Ans) (ha : ∀ r, a = .ref r → ∃ s, target op = some s ∧ r ∈ cacheRefs h s) : Shape h op h a
  /-- constructor, copy, operator, scalar, batch: one new object -/
  | fresh (v : Fp) (props : List (String × PVal)) (ht : target op = none) (hf : isFold op = false) :
      Shape h op (allocFp h v props none none).1 (.ref (allocFp h v props none none).2)
  /-- a fold that is not cached -/
  | foldNew (src bits method : Nat) (linked : Bool) (cm : CountsMethod) (o : FObj) (v : Fp)
      (p : List (String × PVal)) (cache : List ((Nat × Nat) × Ref)) (w : Fp)
      (hop : op = .fold src bits method linked cm) (ho : getObj h src = some o) (hv : absFp h o = some v)
      (hp : getProps h o.props = some p) (hc : getCache h o.cache = some cache)
      (hw : v.fold bits method cm = .ok w) (hn : dictGet cache (bits, method) = none) :
      Shape h op (H.foldNew h src o v p cache bits method linked w).1
        (.ref (H.foldNew h src o v p cache bits method linked w).2)
  /-- `t` gets a new counts dictionary: `setCounts` on `t`, or a cached fold handing back its count / float child `t` -/
  | recount (t : Ref) (ot : FObj) (d : List (Nat × Rat)) (a : Ans) (hot : getObj h t = some ot)
      (ht : (target op = some t ∧ isFold op = false) ∨ ∃ s, target op = some s ∧ t ∈ cacheRefs h s)
      (ha : a = .unit ∨ a = .ref t) :
      Shape h op (setObj (alloc h (.cnts d)).1 t { ot with cnt := some h.cells.length }) a
  /-- a write into one of `t`'s containers other than the cache: `setProp`, `setName`, `pokeIdx`, `pokeCount` -/
  | poke (t : Ref) (ot : FObj) (x : Ref) (c0 c : Cell) (ht : target op = some t) (hot : getObj h t = some ot)
      (hx : x ∈ slotRefs ot) (h0 : h.cells[x]? = some c0) (hs : c0.tag = c.tag) (hnc : c.tag ≠ 3)
      (hf : isFold op = false) :
      Shape h op (setCell h x c) .unit
  /-- `setLevel` -/
  | level (t : Ref) (ot : FObj) (l : Int) (ht : target op = some t) (hot : getObj h t = some ot)
      (hf : isFold op = false) :
      Shape h op (setObj h t { ot with level := l }) .unit

theorem Shape.bad {h : Heap} {op : Op} : Shape h op h .bad := .same _ nofun
theorem Shape.err {h : Heap} {op : Op} (e : Err) : Shape h op h (.err e) := .same _ nofun
theorem Shape.unit {h : Heap} {op : Op} : Shape h op h .unit := .same _ nofun

theorem step_shape (h : Heap) (op : Op) : Shape h op (step h op).1 (step h op).2 := by
  -- the proof follows the branch tree of `step`: one `split` per `match` / `if` of the operation, and each leaf is one
  -- constructor of `Shape` (`.bad`, `.err`, `.unit` are `.same`), fed with what the branch has read (`rename_i`)
  cases op with
  | new k ix c bits level name props =>
    dsimp only [step]
    split
    · exact .err _
    · dsimp only  -- projects the pair first; left to `exact`, the unifier unfolds `allocFp` to find `v` and `props`
      exact .fresh _ _ rfl rfl
  | fromFp k src | scalar o a x =>
    dsimp only [step]
    split
    · exact .bad
    · split
      · split
        · exact .err _
        · dsimp only
          exact .fresh _ _ rfl rfl
      · exact .bad
  | setOp o a b | addSub o a b =>
    dsimp only [step]
    split
    · split
      · split
        · exact .err _
        · dsimp only
          exact .fresh _ _ rfl rfl
      · exact .bad
    · exact .bad
  | batch mean rs w =>
    dsimp only [step]
    split
    · exact .bad
    · split
      · exact .err _
      · exact .unit
      · dsimp only
        exact .fresh _ _ rfl rfl
  | setProp r k v | setName r n =>
    dsimp only [step]
    split
    · rename_i o ho
      split
      · rename_i p hp
        exact .poke r o o.props _ _ rfl ho props_mem_slotRefs (getProps_reads.eq_some.mp hp) rfl (by simp [Cell.tag]) rfl
      · exact .bad
    · exact .bad
  | setLevel r l =>
    dsimp only [step]
    split
    · rename_i o ho
      exact .level r o l rfl ho rfl
    · exact .bad
  | pokeIdx r pos val =>
    dsimp only [step]
    split
    · rename_i o ho
      split
      · rename_i a ha
        split
        · exact .poke r o o.idx _ _ rfl ho idx_mem_slotRefs (getArr_reads.eq_some.mp ha) rfl (by simp [Cell.tag]) rfl
        · exact .err _
      · exact .bad
    · exact .bad
  | pokeCount r key v =>
    dsimp only [step]
    split
    · rename_i o ho
      split
      · rename_i rc hrc
        split
        · rename_i d hd
          exact .poke r o rc _ _ rfl ho (cnt_mem_slotRefs hrc) (getCnts_reads.eq_some.mp hd) rfl (by simp [Cell.tag]) rfl
        · exact .bad
      · exact .bad
    · exact .bad
  | setCounts r d =>
    dsimp only [step]
    split
    · rename_i o ho
      split
      · exact .bad
      · exact .recount r o _ _ ho (.inl ⟨rfl, rfl⟩) (.inl rfl)
    · exact .bad
  | fold src bits method linked cm =>
    dsimp only [step]
    split
    · exact .bad
    · rename_i o ho
      split
      · rename_i v p cache hv hp hc
        split
        · exact .err _
        · rename_i w hw
          split
          · rename_i child hchild
            have hmem : child ∈ cacheRefs h src :=
              cacheRefs_eq ho hc ▸ List.mem_map.mpr ⟨_, dictGet_mem hchild, rfl⟩
            split
            · exact .same _ (by rintro _ ⟨⟩; exact ⟨src, rfl, hmem⟩)
            · rename_i co hco _
              split
              · exact .recount child co _ _ hco (.inr ⟨src, rfl, hmem⟩) (.inr rfl)
              · exact .bad
            · exact .bad
          · rename_i hn
            exact .foldNew src bits method linked cm o v p cache w rfl ho hv hp hc hw hn
      · exact .bad

/-! ## consequences of the shapes -/

theorem Shape.grows {h h' : Heap} {op : Op} {a : Ans} (s : Shape h op h' a) :
    h.objs.length ≤ h'.objs.length := by
  cases s with
  | same => exact Nat.le_refl _
  | fresh => rewrite [allocFp_length]; exact Nat.le_succ _
  | foldNew => simp [H.foldNew, apply_ite Heap.objs, allocFp_length]
  | recount | poke | level => simp

theorem Shape.inv {h h' : Heap} {op : Op} {a : Ans} (s : Shape h op h' a) (hinv : Inv h) : Inv h' := by
  cases s with
  | same => exact hinv
  | fresh v props =>
    obtain ⟨oc, f, _⟩ := allocFp_spec h v props none none
    exact f.inv hinv nofun
  | foldNew src bits method linked cm o v p cache w hop ho hv hp hc hw hn =>
    exact (foldNew_spec bits method linked w hinv ho hc).inv
  | recount t ot d a hot ht ha =>
    exact inv_setObj (inv_alloc hinv _) hot
      { (inv_alloc hinv _).wf t ot hot with cnt := by intro r hr; cases hr; rewrite [getCnts_reads.isSome, alloc_cells_new]; rfl }
      fun x hx => (mem_slotRefs_cnt hx).elim (fun e => .inr (e ▸ unref_alloc hinv _)) .inl
  | poke t ot x c0 c ht hot hx h0 hs hnc =>
    refine inv_setCell hinv h0 hs ?_
    intro d hd; subst hd; exact absurd rfl hnc
  | level t ot l ht hot =>
    have w := hinv.wf t ot hot
    exact inv_setObj hinv hot ⟨w.idx, w.cnt, w.props, w.cache, w.i2f, w.i2u, w.unf⟩ (fun x hx => .inl hx)

theorem Shape.frame {h h' : Heap} {op : Op} {a : Ans} (s : Shape h op h' a) (hinv : Inv h) {r : Nat}
    (hr : r < h.objs.length) (ht : target op ≠ some r) (hc : ∀ s, target op = some s → r ∉ cacheRefs h s) :
    view h' r = view h r := by
  cases s with
  | same => rfl
  | fresh v props =>
    obtain ⟨oc, f, _⟩ := allocFp_spec h v props none none
    exact f.view_old hinv hr
  | foldNew src bits method linked cm o v p cache w hop ho hv hp hc' hw hn =>
    subst hop
    exact (foldNew_spec bits method linked w hinv ho hc').frame r hr (fun e => ht (e ▸ rfl))
  | recount t ot d a hot ht' ha =>
    have hne : r ≠ t := by
      rintro rfl
      rcases ht' with ⟨h1, _⟩ | ⟨s, h1, h2⟩
      · exact ht h1
      · exact hc s h1 h2
    exact (view_setObj_ne hne).trans (view_alloc hinv _ r)
  | poke t ot x c0 c ht' hot hx h0 hs hnc =>
    have hne : t ≠ r := by rintro rfl; exact ht ht'
    refine view_setCell_ne ?_
    intro o_r hor
    exact hinv.sep t r ot o_r hot hor hne x hx
  | level t ot l ht' hot =>
    have hne : r ≠ t := by rintro rfl; exact ht ht'
    exact view_setObj_ne hne

theorem Shape.fresh_result {h h' : Heap} {op : Op} {a : Ans} (s : Shape h op h' a) (hinv : Inv h) {r : Nat}
    (ha : a = .ref r) (hr : h.objs.length ≤ r) :
    r = h.objs.length ∧ h'.objs.length = h.objs.length + 1 ∧
      ∀ o', getObj h' r = some o' → ∀ x ∈ slotRefs o', h.cells.length ≤ x := by
  cases s with
  | same a ha' =>
    obtain ⟨s, _, hs⟩ := ha' r ha
    exact absurd (cacheRefs_lt hinv hs) (Nat.not_lt.mpr hr)
  | fresh v props =>
    obtain ⟨oc, f, hA⟩ := allocFp_spec h v props none none
    cases ha
    refine ⟨hA, f.length, ?_⟩
    rewrite [hA, f.getObj_new]
    intro o' ho'; cases ho'; exact f.fresh
  | foldNew src bits method linked cm o v p cache w hop ho hv hp hc' hw hn =>
    have sp := foldNew_spec (v := v) (p := p) bits method linked w hinv ho hc'
    cases ha
    refine ⟨sp.child, sp.len, ?_⟩
    rewrite [sp.child]; exact sp.newSlots
  | recount t ot d a hot ht' ha' =>
    rcases ha' with rfl | rfl
    · cases ha
    · cases ha; exact absurd (getObj_lt hot) (Nat.not_lt.mpr hr)
  | poke | level => cases ha

theorem Shape.builds_ref {h h' : Heap} {op : Op} {a : Ans} (sh : Shape h op h' a) (hb : builds op = true)
    {r : Ref} (ha : a = .ref r) : r = h.objs.length := by
  have ht : target op = none := by cases op <;> first | rfl | cases hb
  cases sh with
  | same a ha' => obtain ⟨s, hs, _⟩ := ha' r ha; rewrite [ht] at hs; cases hs
  | fresh v props =>
    obtain ⟨oc, f, hA⟩ := allocFp_spec h v props none none
    cases ha; exact hA
  | foldNew _ _ _ _ _ _ _ _ _ _ hop => subst hop; cases hb
  | recount t ot d a hot ht' =>
    rcases ht' with ⟨h1, _⟩ | ⟨s, h1, _⟩ <;> rewrite [ht] at h1 <;> cases h1
  | poke _ _ _ _ _ ht' => rewrite [ht] at ht'; cases ht'
  | level _ _ _ ht' => rewrite [ht] at ht'; cases ht'

theorem Shape.cacheRefs_sub {h h' : Heap} {op : Op} {a : Ans} (sh : Shape h op h' a) (hinv : Inv h)
    {s c : Nat} (hc : c ∈ cacheRefs h' s) :
    c ∈ cacheRefs h s ∨ (c = h.objs.length ∧ s < h.objs.length ∧ isFold op = true) := by
  cases sh with
  | same => exact .inl hc
  | fresh v props =>
    obtain ⟨oc, f, _⟩ := allocFp_spec h v props none none
    exact .inl (f.cacheRefs hinv s ▸ hc)
  | foldNew src bits method linked cm o v p cache w hop ho hv hp hc' hw hn =>
    rcases (foldNew_spec (v := v) (p := p) bits method linked w hinv ho hc').cacheSub s c hc with h1 | ⟨h1, h2⟩
    · exact .inl h1
    · exact .inr ⟨h1, h2 ▸ getObj_lt ho, by rewrite [hop]; rfl⟩
  | recount t ot d a hot ht' ha =>
    rewrite [cacheRefs_setObj (h := (alloc h (.cnts d)).1) (o' := { ot with cnt := some h.cells.length }) hot rfl,
           cacheRefs_alloc hinv] at hc
    exact .inl hc
  | poke t ot x c0 c ht' hot hx h0 hs hnc =>
    -- a cache cell has tag 3 and the written cell has not, so no object's cache cell is written
    have : cacheRefs (setCell h x c) s = cacheRefs h s :=
      cacheRefs_setCell_ne fun o ho e => hnc (by
        have := (hinv.wf s o ho).tag_cache
        rewrite [e, h0] at this
        exact hs ▸ Option.some.inj this)
    exact .inl (this ▸ hc)
  | level t ot l ht' hot =>
    rewrite [cacheRefs_setObj (o' := { ot with level := l }) hot rfl] at hc
    exact .inl hc

theorem Shape.fold_source {h h' : Heap} {a : Ans} {src bits method : Nat} {linked : Bool} {cm : CountsMethod}
    (sh : Shape h (.fold src bits method linked cm) h' a) (hinv : Inv h) (hself : src ∉ cacheRefs h src)
    {v v' : View} (hv : view h src = some v) (hv' : view h' src = some v') :
    v'.val = v.val ∧ v'.props = v.props ∧ v'.unfolded = v.unfolded ∧ v'.i2u = v.i2u := by
  cases sh with
  | same => rewrite [hv] at hv'; cases hv'; exact ⟨rfl, rfl, rfl, rfl⟩
  | fresh _ _ _ hf => cases hf
  | foldNew src' bits' method' linked' cm' o vv p cache w hop ho hvv hp hc hw hn =>
    cases hop
    rewrite [(foldNew_spec bits method linked w hinv ho hc).viewSrc v hv] at hv'
    cases hv'; exact ⟨rfl, rfl, rfl, rfl⟩
  | recount t ot d a hot ht ha =>
    have hne : src ≠ t := by
      rintro rfl
      rcases ht with ⟨_, hf⟩ | ⟨s, hs, hm⟩
      · cases hf
      · cases hs; exact hself hm
    rewrite [(view_setObj_ne hne).trans (view_alloc hinv _ src), hv] at hv'
    cases hv'; exact ⟨rfl, rfl, rfl, rfl⟩
  | poke _ _ _ _ _ _ _ _ _ _ _ hf => cases hf
  | level _ _ _ _ _ hf => cases hf

/-! ## `step` on a copy and on a first fold -/

theorem step_fromFp_eq {h : Heap} {k : Kind} {src : Ref} {v : View} {w : Fp} (hv : view h src = some v)
    (hw : fromFingerprint k v.val = .ok w) :
    step h (.fromFp k src) = ((allocFp h w (dictUpdate [] v.props) none none).1,
      .ref (allocFp h w (dictUpdate [] v.props) none none).2) := by
  obtain ⟨o, ho, ha, hp, _⟩ := view_eq_some.mp hv
  dsimp only [step]
  simp only [ho, ha, hp, hw]

theorem step_fold_new_eq {h : Heap} {src bits method : Nat} {linked : Bool} {cm : CountsMethod} {v : View}
    {w : Fp} {o : FObj} (hv : view h src = some v) (ho : getObj h src = some o)
    (hw : v.val.fold bits method cm = .ok w) (hn : dictGet v.cache (bits, method) = none) :
    step h (.fold src bits method linked cm) =
      ((foldNew h src o v.val v.props v.cache bits method linked w).1,
        .ref (foldNew h src o v.val v.props v.cache bits method linked w).2) := by
  obtain ⟨o', ho', ha, hp, hc, _⟩ := view_eq_some.mp hv
  rewrite [ho] at ho'; cases ho'
  dsimp only [step]
  simp only [ho, ha, hp, hc, hw, hn]
  rfl

end H
end E3fpVerif
