import E3fpVerif.Lemmas.Fprinter
/-!
# The stored neighbour lists never reach the fingerprint

Two level generators that agree up to the stored neighbour lists `GShell.nbrs` (`GenStripEq`; e.g. the
model's and one that enumerates every neighbour set in another order, as Python's set iteration may)
give runs that agree up to those lists (`runFpG_strip`), and no fingerprint reads them
(`fingerprintAt_strip`).
-/
namespace E3fpVerif

/-- a shell without its stored neighbour list -/
def GShell.strip (s : GShell) : GShell := { s with nbrs := [] }

def FState.strip (s : FState) : FState :=
  { tbl := s.tbl, gen := s.gen.map (·.map GShell.strip), levelShells := s.levelShells.map (·.map GShell.strip),
    past := s.past }

theorem strip_shellOf (l : List GShell) (a : Nat) :
    (shellOf l a).strip = shellOf (l.map GShell.strip) a := by
  unfold shellOf
  rewrite [List.find?_map]
  have : ((fun s : GShell => decide (s.atom = a)) ∘ GShell.strip) = (fun s : GShell => decide (s.atom = a)) := rfl
  rewrite [this]
  cases l.find? (fun s => decide (s.atom = a)) <;> rfl

theorem GShell.of_strip_eq {x y : GShell} (e : x.strip = y.strip) :
    x.ident = y.ident ∧ x.sid = y.sid ∧ x.sub = y.sub := by
  have h1 := congrArg GShell.ident e
  have h2 := congrArg GShell.sid e
  have h3 := congrArg GShell.sub e
  exact ⟨h1, h2, h3⟩

theorem shellOf_strip_congr {l l' : List GShell} (h : l.map GShell.strip = l'.map GShell.strip) (a : Nat) :
    (shellOf l a).ident = (shellOf l' a).ident ∧ (shellOf l a).sid = (shellOf l' a).sid
      ∧ (shellOf l a).sub = (shellOf l' a).sub :=
  GShell.of_strip_eq (by rw [strip_shellOf, strip_shellOf, h])

theorem sortByLt_strip (l : List GShell) :
    (sortByLt ltShell l).map GShell.strip = sortByLt ltShell (l.map GShell.strip) :=
  sortByLt_map_mem ltShell ltShell GShell.strip l (fun _ _ _ _ => rfl)

theorem accepted_strip (b : Bool) (past : List (List Nat)) (S : List GShell) :
    (if b = true then dedupShells past (S.map GShell.strip) else (past, S.map GShell.strip))
      = ((if b = true then dedupShells past S else (past, S)).1,
         (if b = true then dedupShells past S else (past, S)).2.map GShell.strip) := by
  have h := accepted_map GShell.strip id (fun _ => rfl) (fun _ => True) (fun _ _ _ _ h => h) b past S
    (fun _ _ => trivial) (fun _ _ => trivial)
  rewrite [List.map_id, List.map_id] at h
  exact h

theorem all_sub_strip (l : List GShell) (n : Nat) :
    l.all (fun x => x.sub.length == n) = (l.map GShell.strip).all (fun x => x.sub.length == n) := by
  rewrite [List.all_map]; rfl

/-- two level generators agree up to neighbour lists, on inputs that agree up to neighbour lists -/
def GenStripEq (gl gl' : LevelGen) : Prop :=
  ∀ prev prev' k t, prev.map GShell.strip = prev'.map GShell.strip →
    (gl prev k t).1 = (gl' prev' k t).1 ∧ (gl prev k t).2.map GShell.strip = (gl' prev' k t).2.map GShell.strip

theorem stepG_strip (gl gl' : LevelGen) (hgl : GenStripEq gl gl') (o : Opts) (atoms : List Nat)
    (s s' : FState) (h : s.strip = s'.strip) :
    stopsG gl o atoms s = stopsG gl' o atoms s' ∧ (stepNextG gl o s).strip = (stepNextG gl' o s').strip := by
  -- `strip` commutes with every stage (last level, sort, duplicate filter, union); the stop tests read only
  -- lengths and substructures, which `strip` keeps
  simp only [FState.strip, FState.mk.injEq] at h
  obtain ⟨htbl, hgen, hls, hpast⟩ := h
  have hcur : s.currentLevel = s'.currentLevel := by
    unfold FState.currentLevel
    have := congrArg List.length hgen
    simp only [List.length_map] at this
    rw [this]
  have hc : (s.gen.getLastD []).map GShell.strip = (s'.gen.getLastD []).map GShell.strip := by
    rw [← getLastD_map_map, ← getLastD_map_map, hgen]
  have hp : (s.levelShells.getLastD []).map GShell.strip = (s'.levelShells.getLastD []).map GShell.strip := by
    rw [← getLastD_map_map, ← getLastD_map_map, hls]
  obtain ⟨hg1, hg2⟩ := hgl (s.gen.getLastD []) (s'.gen.getLastD []) (s'.currentLevel + 1) s'.tbl hc
  have hacc : ((stepAccG gl o s).1, (stepAccG gl o s).2.map GShell.strip)
      = ((stepAccG gl' o s').1, (stepAccG gl' o s').2.map GShell.strip) := by
    simp only [stepAccG, ← accepted_strip, sortByLt_strip, hcur, htbl, hpast, hg2]
  obtain ⟨hacc1, hacc2⟩ := Prod.mk.inj hacc
  have hU : (unionShells (s.levelShells.getLastD []) (stepAccG gl o s).2).map GShell.strip
      = (unionShells (s'.levelShells.getLastD []) (stepAccG gl' o s').2).map GShell.strip := by
    rw [← unionShells_map GShell.strip (fun _ => rfl), ← unionShells_map GShell.strip (fun _ => rfl), hp, hacc2]
  have hlen := congrArg List.length hU
  have hplen := congrArg List.length hp
  simp only [List.length_map] at hlen hplen
  constructor
  · simp only [stopsG, hcur, all_sub_strip (s.gen.getLastD []), all_sub_strip (s'.gen.getLastD []), hc, hlen, hplen]
  · unfold stepNextG FState.strip
    simp only [List.map_append, List.map_cons, List.map_nil, hgen, hls, hU, hacc1, hcur, htbl, hg1, hg2]

theorem iterateG_strip (gl gl' : LevelGen) (hgl : GenStripEq gl gl') (o : Opts) (atoms : List Nat) (fuel : Nat)
    (s s' : FState) (h : s.strip = s'.strip) :
    (iterateG gl o atoms fuel s).strip = (iterateG gl' o atoms fuel s').strip := by
  induction fuel generalizing s s' with
  | zero => exact h
  | succ n ih =>
    obtain ⟨hstop, hnext⟩ := stepG_strip gl gl' hgl o atoms s s' h
    unfold iterateG
    rewrite [stepStateG_eq, stepStateG_eq, hstop]
    cases stopsG gl' o atoms s'
    · exact ih _ _ hnext
    · exact h

theorem runFpG_strip (gl gl' : List Nat → LevelGen) (hgl : ∀ atoms, GenStripEq (gl atoms) (gl' atoms))
    (o : Opts) (m : MolG) :
    (runFpG gl o m).map FState.strip = (runFpG gl' o m).map FState.strip :=
  runFpG_map FState.strip FState.strip gl gl' o m m rfl rfl (fun n => iterateG_strip _ _ (hgl _) o _ n _ _ rfl)

theorem fingerprintAt_strip (o : Opts) (s : FState) (req : Option Int) (bits : Option Nat) (mask : List Nat) :
    fingerprintAt o s.strip req bits mask = fingerprintAt o s req bits mask :=
  fingerprintAt_map GShell.strip (fun _ => rfl) o (List.length_map _) rfl req bits mask mask (fun _ _ _ _ => rfl)

end E3fpVerif
