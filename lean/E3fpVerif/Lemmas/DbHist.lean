import E3fpVerif.Model.DbHist
import E3fpVerif.Lemmas.ListAux
import E3fpVerif.Lemmas.ExceptGuard
/-!
# Pools, histories and the specification by itself: `Model/DbHist.lean` without a look at `Db`

An operation of a history, seen from the pool, reads its operands, computes, and writes back with `putRes`, in one
of three shapes (`Act`); an update in place is `from1 id id` of its result read through `toEx` (a refusal hands the
operand back, `PoolOf.put_get_self`).  What holds of every such step - a refusal leaves the pool alone, a predicate or
a simulation of the function carries over to the pool (a `setKV` dictionary, `Lemmas/ListAux.lean`) - is proved once
per shape, for model and specification alike.  Then the specification's `add` and `concat` as propositions, that
accepted additions compose, and that its three updates in place are atomic.
-/
namespace E3fpVerif

/-! ## pools -/

section Pools
variable {α β : Type}

theorem PoolOf.put_eq_setKV (p : PoolOf α) (id : String) (v : α) : PoolOf.put p id v = setKV p id v := by
  induction p with
  | nil => rfl
  | cons e p ih => obtain ⟨k, w⟩ := e; dsimp only [PoolOf.put, setKV]; rw [ih]

theorem PoolOf.get?_eq_lookup (p : PoolOf α) (id : String) : PoolOf.get? p id = p.lookup id := by
  induction p with
  | nil => rfl
  | cons e p ih => obtain ⟨k, w⟩ := e; dsimp only [PoolOf.get?]; rw [lookup_cons_ite, ih]

theorem PoolOf.get?_map (f : α → β) (p : PoolOf α) (id : String) :
    PoolOf.get? (List.map (fun e => (e.1, f e.2)) p : PoolOf β) id = (PoolOf.get? p id).map f := by
  rw [PoolOf.get?_eq_lookup, PoolOf.get?_eq_lookup, lookup_map_snd]

theorem PoolOf.put_map (f : α → β) (p : PoolOf α) (id : String) (v : α) :
    PoolOf.put (List.map (fun e => (e.1, f e.2)) p : PoolOf β) id (f v) =
      List.map (fun e => (e.1, f e.2)) (PoolOf.put p id v) := by
  rw [PoolOf.put_eq_setKV, PoolOf.put_eq_setKV, setKV_map_snd]

theorem PoolOf.getAll?_cons (p : PoolOf α) (id : String) (ids : List String) :
    PoolOf.getAll? p (id :: ids) = (PoolOf.get? p id).bind (fun d => (PoolOf.getAll? p ids).map (d :: ·)) := by
  unfold PoolOf.getAll?
  rewrite [List.mapM_cons]
  cases PoolOf.get? p id with
  | none => rfl
  | some d => cases List.mapM (fun id => PoolOf.get? p id) ids <;> rfl

theorem PoolOf.getAll?_map (f : α → β) (p : PoolOf α) (ids : List String) :
    PoolOf.getAll? (List.map (fun e => (e.1, f e.2)) p : PoolOf β) ids =
      (PoolOf.getAll? p ids).map (List.map f) := by
  induction ids with
  | nil => rfl
  | cons id ids ih =>
    rewrite [PoolOf.getAll?_cons, PoolOf.getAll?_cons, ih, PoolOf.get?_map]
    cases PoolOf.get? p id with
    | none => rfl
    | some d => cases PoolOf.getAll? p ids <;> rfl

theorem PoolOf.all_get? {P : α → Prop} {p : PoolOf α} (hp : ∀ e ∈ p, P e.2) {id : String} {v : α}
    (h : p.get? id = some v) : P v :=
  hp _ (mem_of_lookup_eq_some (PoolOf.get?_eq_lookup p id ▸ h))

theorem PoolOf.all_getAll? {P : α → Prop} {p : PoolOf α} (hp : ∀ e ∈ p, P e.2) {ids : List String} {vs : List α}
    (h : p.getAll? ids = some vs) : ∀ v ∈ vs, P v := by
  induction ids generalizing vs with
  | nil => cases h; nofun
  | cons id ids ih =>
    rewrite [PoolOf.getAll?_cons] at h
    obtain ⟨d, hg, h⟩ := Option.bind_eq_some_iff.1 h
    obtain ⟨ds, hm, rfl⟩ := Option.map_eq_some_iff.1 h
    exact List.forall_mem_cons.2 ⟨PoolOf.all_get? hp hg, ih hm⟩

theorem PoolOf.put_get_self (p : PoolOf α) (id : String) (d : α) (h : PoolOf.get? p id = some d) :
    PoolOf.put p id d = p := by
  induction p with
  | nil => cases h
  | cons e rest ih =>
    obtain ⟨k, w⟩ := e
    dsimp only [PoolOf.get?] at h
    dsimp only [PoolOf.put]
    by_cases hk : k = id
    · rewrite [if_pos hk] at h; rw [if_pos hk, Option.some.inj h]
    · rewrite [if_neg hk] at h; rw [if_neg hk, ih h]

/-! ## the three shapes of an operation -/

/-- an answer paired with a value as a result: the value if the answer is "accepted" -/
def toEx (r : α × Ans) : Except Err α :=
  match r.2 with
  | none => .ok r.1
  | some e => .error e

theorem toEx_eq_ok {r : α × Ans} {d : α} : toEx r = .ok d ↔ r = (d, none) := by
  obtain ⟨x, _ | e⟩ := r
  · exact ⟨fun h => congrArg (·, none) (Except.ok.inj h), fun h => congrArg Except.ok (Prod.mk.inj h).1⟩
  · exact ⟨nofun, nofun⟩

theorem toEx_ok {r : α × Ans} {d : α} (h : toEx r = .ok d) : r.1 = d := congrArg Prod.fst (toEx_eq_ok.1 h)

theorem toEx_map (abs : α → β) (r : α × Ans) : (toEx r).map abs = toEx (r.map abs id) := by
  obtain ⟨x, _ | e⟩ := r <;> rfl

/-- An operation of a history seen from the pool: where the operands come from, where the result goes,
and the function in between. -/
inductive Act (α : Type)
  | make (out : String) (r : Except Err α)
  | from1 (id out : String) (f : α → Except Err α)
  | fromN (ids : List String) (out : String) (f : List α → Except Err α)

def Act.step (p : PoolOf α) : Act α → Option (PoolOf α × Ans)
  | .make out r => some (putRes p out r)
  | .from1 id out f => (p.get? id).map (fun d => putRes p out (f d))
  | .fromN ids out f => (p.getAll? ids).map (fun ds => putRes p out (f ds))

theorem putRes_refused {p p' : PoolOf α} {out : String} {r : Except Err α} {e : Err}
    (h : putRes p out r = (p', some e)) : p' = p := by
  cases r with
  | error e' => exact (congrArg Prod.fst h).symm
  | ok d => cases congrArg Prod.snd h

theorem Act.step_refused (a : Act α) (p p' : PoolOf α) (e : Err) (h : a.step p = some (p', some e)) : p' = p := by
  cases a with
  | make out r => exact putRes_refused (Option.some.inj h)
  | from1 id out f => obtain ⟨d, _, h⟩ := Option.map_eq_some_iff.1 h; exact putRes_refused h
  | fromN ids out f => obtain ⟨ds, _, h⟩ := Option.map_eq_some_iff.1 h; exact putRes_refused h

/-- the function of the action yields `P` from operands satisfying `P` -/
def Act.Keeps (P : α → Prop) : Act α → Prop
  | .make _ r => ∀ d, r = .ok d → P d
  | .from1 _ _ f => ∀ d d', P d → f d = .ok d' → P d'
  | .fromN _ _ f => ∀ ds d', (∀ d ∈ ds, P d) → f ds = .ok d' → P d'

theorem putRes_all {P : α → Prop} {p : PoolOf α} (hp : ∀ e ∈ p, P e.2) (out : String) (r : Except Err α)
    (hr : ∀ d, r = .ok d → P d) : ∀ e ∈ (putRes p out r).1, P e.2 := by
  cases r with
  | error e => exact hp
  | ok d =>
    intro e (he : e ∈ p.put out d)
    rcases mem_setKV (PoolOf.put_eq_setKV p out d ▸ he) with h | rfl
    · exact hp e h
    · exact hr d rfl

theorem Act.step_keeps {P : α → Prop} (a : Act α) (ha : a.Keeps P) (p : PoolOf α) (hp : ∀ e ∈ p, P e.2)
    (q : PoolOf α × Ans) (h : a.step p = some q) : ∀ e ∈ q.1, P e.2 := by
  cases a with
  | make out r => cases h; exact putRes_all hp out r ha
  | from1 id out f =>
    obtain ⟨d, hg, rfl⟩ := Option.map_eq_some_iff.1 h
    exact putRes_all hp out _ (ha d · (PoolOf.all_get? hp hg))
  | fromN ids out f =>
    obtain ⟨ds, hg, rfl⟩ := Option.map_eq_some_iff.1 h
    exact putRes_all hp out _ (ha ds · (PoolOf.all_getAll? hp hg))

/-- `b` computes on abstractions what `a` computes on operands satisfying `P` -/
inductive Act.Sim (abs : α → β) (P : α → Prop) : Act α → Act β → Prop
  | make (out : String) (r : Except Err α) : Sim abs P (.make out r) (.make out (r.map abs))
  | from1 (id out : String) (f : α → Except Err α) (g : β → Except Err β)
      (h : ∀ d, P d → (f d).map abs = g (abs d)) : Sim abs P (.from1 id out f) (.from1 id out g)
  | fromN (ids : List String) (out : String) (f : List α → Except Err α) (g : List β → Except Err β)
      (h : ∀ ds, (∀ d ∈ ds, P d) → (f ds).map abs = g (ds.map abs)) : Sim abs P (.fromN ids out f) (.fromN ids out g)

theorem putRes_map (abs : α → β) (p : PoolOf α) (out : String) (r : Except Err α) :
    putRes (p.map (fun e => (e.1, abs e.2))) out (r.map abs) =
      ((putRes p out r).1.map (fun e => (e.1, abs e.2)), (putRes p out r).2) := by
  cases r with
  | error e => rfl
  | ok d => simp only [Except.map, putRes, PoolOf.put_map]

theorem Act.Sim.step {abs : α → β} {P : α → Prop} {a : Act α} {b : Act β} (h : Act.Sim abs P a b) (p : PoolOf α)
    (hp : ∀ e ∈ p, P e.2) :
    (a.step p).map (fun q => (q.1.map (fun e => (e.1, abs e.2)), q.2)) = b.step (p.map (fun e => (e.1, abs e.2))) := by
  cases h with
  | make out r => simp only [Act.step, Option.map_some, putRes_map]
  | from1 id out f g h =>
    simp only [Act.step, PoolOf.get?_map]
    cases hg : p.get? id with
    | none => rfl
    | some d => simp only [Option.map_some, ← h d (PoolOf.all_get? hp hg), putRes_map]
  | fromN ids out f g h =>
    simp only [Act.step, PoolOf.getAll?_map]
    cases hg : p.getAll? ids with
    | none => rfl
    | some ds => simp only [Option.map_some, ← h ds (PoolOf.all_getAll? hp hg), putRes_map]

end Pools

/-! ## histories -/

theorem runOps_cons (p : Pool) (op : DbOp) (rest : List DbOp) :
    runOps p (op :: rest) = (stepOp p op).bind (fun r => (runOps r.1 rest).map (fun q => (q.1, r.2 :: q.2))) := by
  dsimp only [runOps]
  cases stepOp p op with
  | none => rfl
  | some r => cases h : runOps r.1 rest <;> simp [h]

theorem runSpec_cons (p : SPool) (op : DbOp) (rest : List DbOp) :
    runSpec p (op :: rest) = (specStep p op).bind (fun r => (runSpec r.1 rest).map (fun q => (q.1, r.2 :: q.2))) := by
  dsimp only [runSpec]
  cases specStep p op with
  | none => rfl
  | some r => cases h : runSpec r.1 rest <;> simp [h]

theorem runOps_cons_some {p : Pool} {op : DbOp} {rest : List DbOp} {q : Pool} {as : List Ans}
    (h : runOps p (op :: rest) = some (q, as)) :
    ∃ p' a as', stepOp p op = some (p', a) ∧ runOps p' rest = some (q, as') ∧ as = a :: as' := by
  rewrite [runOps_cons] at h
  obtain ⟨⟨p', a⟩, hst, h⟩ := Option.bind_eq_some_iff.1 h
  obtain ⟨⟨q', as'⟩, hr, h⟩ := Option.map_eq_some_iff.1 h
  cases h
  exact ⟨p', a, as', hst, hr, rfl⟩

/-- the induction over a history: what every step (of an operation satisfying `W`) keeps holds of the pool the
history ends in -/
theorem runOps_keeps (I : Pool → Prop) (W : DbOp → Prop)
    (hstep : ∀ p op r, I p → W op → stepOp p op = some r → I r.1) (p : Pool) (ops : List DbOp) (hp : I p)
    (hw : ∀ op ∈ ops, W op) (r : Pool × List Ans) (h : runOps p ops = some r) : I r.1 := by
  induction ops generalizing p r with
  | nil => cases h; exact hp
  | cons op rest ih =>
    obtain ⟨q, as⟩ := r
    obtain ⟨p', a, as', hst, hr, _⟩ := runOps_cons_some h
    exact ih p' (hstep p op _ hp (hw op List.mem_cons_self) hst) (fun o ho => hw o (List.mem_cons_of_mem _ ho)) (q, as') hr

/-! ## what the specification's `add` and `concat` return -/

/-- the row an accepted addition appends for one fingerprint -/
def addRow (k : Kind) (keys : List String) (f : FpIn) : SRow :=
  { cells := fpRow k f.fp, name := f.name, props := keys.map (fun k => (k, (propLookup f.props k).getD (.int 0))) }

/-- a row with its property values re-keyed to `K` -/
def rekey (K : List String) (r : SRow) : SRow :=
  { r with props := K.filterMap (fun k => (propLookup r.props k).map (fun v => (k, v))) }

/-- the checks of `add_fingerprints` all pass -/
def SDb.Accepts (s : SDb) (fps : List FpIn) : Prop :=
  fps ≠ [] ∧ (∀ f ∈ fps, f.fp.level = s.level) ∧ (∀ f ∈ fps, f.fp.bits = s.expectedBits fps) ∧
    ∀ f ∈ fps, ∀ k ∈ s.expectedKeys fps, propLookup f.props k ≠ none

/-- what an accepted addition leaves -/
def SDb.added (s : SDb) (fps : List FpIn) : SDb :=
  { s with bits := some (s.expectedBits fps), keys := s.expectedKeys fps,
           rows := s.rows ++ fps.map (addRow s.kind (s.expectedKeys fps)) }

theorem SDb.add_eq_ok (s t : SDb) (fps : List FpIn) : s.add fps = (t, none) ↔ s.Accepts fps ∧ s.added fps = t := by
  unfold SDb.add SDb.Accepts
  -- `ite_refuse_eq_ok` turns each guard into one conjunct of `Accepts`; the rest spells `any` / `isNone` as ∀ / `=`
  simp only [ite_refuse_eq_ok, Bool.not_eq_true, List.isEmpty_eq_false_iff, List.any_eq_false, bne_eq_false_iff_eq, Option.isNone_eq_false_iff,
    Option.isSome_iff_ne_none, Prod.mk.injEq, and_true, and_assoc]
  rfl

theorem SDb.add_none_iff (s : SDb) (fps : List FpIn) : (s.add fps).2 = none ↔ s.Accepts fps :=
  ⟨fun h => ((s.add_eq_ok _ fps).1 (Prod.ext rfl h)).1, fun h => congrArg Prod.snd ((s.add_eq_ok _ fps).2 ⟨h, rfl⟩)⟩

theorem SDb.concat_eq_ok (s0 : SDb) (rest : List SDb) (d : SDb) :
    SDb.concat (s0 :: rest) = .ok d ↔
      ((∀ x ∈ s0 :: rest, x.level = s0.level) ∧ (∀ x ∈ s0 :: rest, x.bits = s0.bits) ∧
        (∀ x ∈ s0 :: rest, x.kind = s0.kind) ∧ (∀ x ∈ s0 :: rest, x.bits ≠ none) ∧
        ∀ x ∈ s0 :: rest, x.rows ≠ [] → ∀ k ∈ concatKeysS (s0 :: rest), k ∈ x.keys) ∧
      { kind := s0.kind, level := s0.level, name := none, bits := some (s0.bits.getD 0),
        keys := concatKeysS (s0 :: rest),
        rows := (s0 :: rest).flatMap (fun x => x.rows.map (rekey (concatKeysS (s0 :: rest)))) } = d := by
  rewrite [SDb.concat]
  -- as in `add_eq_ok`: one conjunct per guard (`ite_error_eq_ok`), in the order of the checks
  simp only [ite_error_eq_ok, Except.ok.injEq, Bool.not_eq_true, List.any_eq_false, bne_eq_false_iff_eq, Option.isNone_eq_false_iff, Option.isSome_iff_ne_none,
    Bool.and_eq_false_imp, Bool.not_eq_true', Bool.not_eq_false, List.isEmpty_eq_false_iff, List.contains_eq_mem,
    decide_eq_true_eq, and_assoc]
  rfl

/-! ## accepted additions compose -/

theorem SDb.expected_append (s : SDb) (xs ys : List FpIn) (hx : xs ≠ []) :
    s.expectedBits (xs ++ ys) = s.expectedBits xs ∧ s.expectedKeys (xs ++ ys) = s.expectedKeys xs := by
  cases xs with
  | nil => exact absurd rfl hx
  | cons x xs => exact ⟨rfl, rfl⟩

theorem SDb.expected_added (s : SDb) (xs ys : List FpIn) (hx : xs ≠ []) :
    (s.added xs).expectedBits ys = s.expectedBits xs ∧ (s.added xs).expectedKeys ys = s.expectedKeys xs := by
  have : (s.added xs).rows.length > 0 :=
    List.length_pos_iff.2 (List.append_ne_nil_of_right_ne_nil _ (mt List.map_eq_nil_iff.1 hx))
  simp only [SDb.expectedBits, SDb.expectedKeys, this, if_true, true_or]
  exact ⟨rfl, rfl⟩

theorem SDb.accepts_append (s : SDb) (xs ys : List FpIn) (hx : xs ≠ []) :
    s.Accepts (xs ++ ys) ↔ s.Accepts xs ∧ (ys = [] ∨ (s.added xs).Accepts ys) := by
  by_cases hy : ys = []
  · rewrite [hy, List.append_nil]
    exact (and_iff_left (.inl rfl)).symm
  obtain ⟨b1, k1⟩ := s.expected_append xs ys hx
  obtain ⟨b2, k2⟩ := s.expected_added xs ys hx
  unfold SDb.Accepts
  rewrite [b1, k1, b2, k2]
  simp only [List.forall_mem_append, hy, false_or]
  constructor
  · rintro ⟨_, ⟨l1, l2⟩, ⟨c1, c2⟩, ⟨p1, p2⟩⟩
    exact ⟨⟨hx, l1, c1, p1⟩, hy, l2, c2, p2⟩
  · rintro ⟨⟨_, l1, c1, p1⟩, _, l2, c2, p2⟩
    exact ⟨List.append_ne_nil_of_left_ne_nil hx ys, ⟨l1, l2⟩, ⟨c1, c2⟩, ⟨p1, p2⟩⟩

theorem SDb.added_append (s : SDb) (xs ys : List FpIn) (hx : xs ≠ []) :
    (s.added xs).added ys = s.added (xs ++ ys) := by
  obtain ⟨b1, k1⟩ := s.expected_append xs ys hx
  obtain ⟨b2, k2⟩ := s.expected_added xs ys hx
  unfold SDb.added at b2 k2 ⊢
  rw [b1, k1, b2, k2, List.map_append, List.append_assoc]

/-! ## a refused update hands back the database it was given (specification) -/

theorem SDb.add_atomic (s : SDb) (fps : List FpIn) (h : (s.add fps).2.isSome) : (s.add fps).1 = s := by
  unfold SDb.add at h ⊢
  exact ite_refuse_atomic (ite_refuse_atomic (ite_refuse_atomic (ite_refuse_atomic fun h => by cases h))) h

theorem SDb.setProp_atomic (s : SDb) (key : String) (vals : List PVal) (h : (s.setProp key vals).2.isSome) :
    (s.setProp key vals).1 = s := by
  unfold SDb.setProp at h ⊢
  exact ite_refuse_atomic (fun h => by cases h) h

theorem SDb.updateProps_atomic (s : SDb) (cols : List (String × List PVal)) (h : (s.updateProps cols).2.isSome) :
    (s.updateProps cols).1 = s := by
  unfold SDb.updateProps at h ⊢
  exact ite_refuse_atomic (fun h => by cases h) h

end E3fpVerif
