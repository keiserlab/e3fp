import E3fpVerif.Model.Db
import E3fpVerif.Lemmas.ListAux
/-!
# The name index of a database (`fp_names_to_indices`)

`updateNamesMap m names off` is a `foldl` of `mapAppend` over `names.zipIdx`, so one more name at the
end is one more `mapAppend` (`updateNamesMap_snoc`).  Everything else is induction from the right:
the offset-append law, and the lookups in the canonical index in terms of `positions`.  The index is an
insertion-ordered dictionary: `mapLookup` is `List.lookup` and `mapAppend` a `setKV` (`Lemmas/ListAux.lean`).
-/
namespace E3fpVerif

theorem updateNamesMap_snoc (m : List (Option String × List Nat)) (names : List (Option String))
    (x : Option String) (off : Nat) :
    updateNamesMap m (names ++ [x]) off = mapAppend (updateNamesMap m names off) x (names.length + off) := by
  simp [updateNamesMap, List.zipIdx_append, List.foldl_append]

/-- appending a batch with an offset to an index built from any start equals building the index
of the concatenated names -/
theorem updateNamesMap_append_gen (m : List (Option String × List Nat)) (xs ys : List (Option String)) (k : Nat) :
    updateNamesMap (updateNamesMap m xs k) ys (k + xs.length) = updateNamesMap m (xs ++ ys) k := by
  induction ys using snoc_induction with
  | hnil => simp [updateNamesMap]
  | hsnoc ys y ih =>
    rewrite [← List.append_assoc, updateNamesMap_snoc, updateNamesMap_snoc, ih, List.length_append]
    congr 1; simp only [Nat.add_assoc, Nat.add_comm]

/-- the rows carrying the name `nm`, ascending: `[i | i < len(names), names[i] == nm]` -/
def positions (names : List (Option String)) (nm : Option String) : List Nat :=
  (List.range names.length).filter (fun i => decide (names[i]? = some nm))

theorem positions_snoc (names : List (Option String)) (x nm : Option String) :
    positions (names ++ [x]) nm = positions names nm ++ if x = nm then [names.length] else [] := by
  unfold positions
  rewrite [List.length_append, List.length_singleton, List.range_succ, List.filter_append]
  congr 1
  · apply List.filter_congr
    intro i hi
    rw [List.getElem?_append_left (List.mem_range.1 hi)]
  · simp only [List.filter_cons, List.filter_nil, List.getElem?_concat_length, Option.some.injEq, decide_eq_true_eq]

theorem mem_positions (names : List (Option String)) (nm : Option String) (i : Nat) :
    i ∈ positions names nm ↔ names[i]? = some nm := by
  unfold positions
  simp only [List.mem_filter, List.mem_range, decide_eq_true_eq, and_iff_right_iff_imp]
  exact fun h => (List.getElem?_eq_some_iff.1 h).1

theorem positions_strictAsc (names : List (Option String)) (nm : Option String) :
    StrictAsc (positions names nm) := by
  unfold positions StrictAsc
  apply List.Pairwise.filter
  exact List.pairwise_lt_range

theorem positions_eq_nil_iff (names : List (Option String)) (nm : Option String) :
    positions names nm = [] ↔ nm ∉ names := by
  rewrite [List.eq_nil_iff_forall_not_mem]
  simp only [mem_positions]
  constructor
  · intro h hm
    obtain ⟨i, hi, e⟩ := List.getElem_of_mem hm
    exact h i (by rw [List.getElem?_eq_getElem hi, e])
  · intro h i hi
    exact h (List.mem_of_getElem? hi)

theorem mapLookup_eq_lookup (m : List (Option String × List Nat)) (k : Option String) : mapLookup m k = m.lookup k := by
  induction m with
  | nil => rfl
  | cons p ps ih => obtain ⟨a, w⟩ := p; dsimp only [mapLookup]; rw [lookup_cons_ite, ih]

/-- `dict[name].append(i)` sets the key to its old value (or `[]`) extended by `i` -/
theorem mapAppend_eq_setKV (m : List (Option String × List Nat)) (x : Option String) (i : Nat) :
    mapAppend m x i = setKV m x ((m.lookup x).getD [] ++ [i]) := by
  induction m with
  | nil => rfl
  | cons p ps ih =>
    obtain ⟨a, w⟩ := p
    dsimp only [mapAppend, setKV]
    rewrite [lookup_cons_ite]
    by_cases e : a = x
    · rewrite [if_pos e, if_pos e, if_pos e]; rfl
    · rw [if_neg e, if_neg e, if_neg e, ih]

theorem canonical_keys_nodup (names : List (Option String)) :
    ((updateNamesMap [] names 0).map Prod.fst).Nodup := by
  induction names using snoc_induction with
  | hnil => exact List.nodup_nil
  | hsnoc names x ih => rewrite [updateNamesMap_snoc, mapAppend_eq_setKV]; exact setKV_nodup _ x _ ih

theorem mapLookup_mapAppend (m : List (Option String × List Nat)) (x nm : Option String) (i : Nat) :
    mapLookup (mapAppend m x i) nm =
      if x = nm then some ((mapLookup m nm).getD [] ++ [i]) else mapLookup m nm := by
  rewrite [mapLookup_eq_lookup, mapAppend_eq_setKV, lookup_setKV, mapLookup_eq_lookup]
  by_cases e : x = nm
  · rw [if_pos e, if_pos e, e]
  · rw [if_neg e, if_neg e]

/-- lookup in the canonical index: the ascending list of the rows carrying the name, `none`
exactly for an absent name -/
theorem mapLookup_canonical (names : List (Option String)) (nm : Option String) :
    mapLookup (updateNamesMap [] names 0) nm =
      if nm ∈ names then some (positions names nm) else none := by
  induction names using snoc_induction with
  | hnil => rfl
  | hsnoc names x ih =>
    rewrite [updateNamesMap_snoc, mapLookup_mapAppend, ih, positions_snoc, Nat.add_zero]
    by_cases hx : x = nm
    · subst hx
      by_cases hm : x ∈ names
      · simp [hm]
      · simp [hm, (positions_eq_nil_iff names x).2 hm]
    · have hx' : ¬ nm = x := fun e => hx e.symm
      simp [hx, hx']

theorem mapLookup_canonical_getD (names : List (Option String)) (nm : Option String) :
    (mapLookup (updateNamesMap [] names 0) nm).getD [] = positions names nm := by
  rewrite [mapLookup_canonical]
  by_cases h : nm ∈ names
  · simp [h]
  · simp [h, (positions_eq_nil_iff names nm).2 h]

end E3fpVerif
