import E3fpVerif.Model.DbHist
import E3fpVerif.Lemmas.DbCols
/-!
# The rows and keys of a database as the specification sees them

The rows of a database (`Db.absRows`) are `mkRows` of its matrix, names and property columns, so the effect of an
operation on the rows is a fact about `mkRows`; the property values of row `i` are the cells `colsAt props i`.  The
keys of a dictionary filled by assignments are `dedupKeys` of the assigned keys, each with its last value
(`foldl_colSet_nil`).  Columns and the cells of a row are insertion-ordered dictionaries: `List.lookup` and `setKV`
of `Lemmas/ListAux.lean`.
-/
namespace E3fpVerif

/-! ## rows as a function of matrix, names and columns -/

/-- the cells of the property columns at row `i` -/
def colsAt (props : Cols) (i : Nat) : List (String × PVal) :=
  props.filterMap (fun c => (c.2[i]?).map (fun v => (c.1, v)))

def mkRow (a : List Row) (names : List (Option String)) (props : Cols) (i : Nat) : SRow :=
  { cells := (a[i]?).getD [], name := (names[i]?).getD none, props := colsAt props i }

def mkRows (n : Nat) (a : List Row) (names : List (Option String)) (props : Cols) : List SRow :=
  (List.range n).map (mkRow a names props)

theorem absRows_eq (db : Db) : db.absRows = mkRows db.fpNum (db.array.getD []) db.fpNames db.props := rfl

theorem mkRows_length (n : Nat) (a : List Row) (names : List (Option String)) (props : Cols) :
    (mkRows n a names props).length = n := by rw [mkRows, List.length_map, List.length_range]

theorem absRows_length (db : Db) : db.absRows.length = db.fpNum := by
  rw [absRows_eq, mkRows_length]

theorem mkRows_congr (n : Nat) (a a' : List Row) (names names' : List (Option String)) (props props' : Cols)
    (h : ∀ i, i < n → mkRow a names props i = mkRow a' names' props' i) :
    mkRows n a names props = mkRows n a' names' props' := by
  unfold mkRows
  apply List.map_congr_left
  intro i hi
  exact h i (List.mem_range.1 hi)

theorem mkRows_eq_map {β : Type} (l : List β) (F : β → SRow) (a : List Row) (names : List (Option String))
    (props : Cols) (h : ∀ i (hi : i < l.length), mkRow a names props i = F l[i]) :
    mkRows l.length a names props = l.map F := by
  apply List.ext_getElem
  · rw [mkRows_length, List.length_map]
  · intro i h1 h2
    have hi : i < l.length := by rwa [mkRows_length] at h1
    simp only [mkRows, List.getElem_map, List.getElem_range]
    exact h i hi

theorem mkRows_append (n1 n2 : Nat) (a1 a2 : List Row) (nm1 nm2 : List (Option String)) (p p1 p2 : Cols)
    (ha : a1.length = n1) (hn : nm1.length = n1)
    (hp1 : ∀ i, i < n1 → colsAt p i = colsAt p1 i)
    (hp2 : ∀ j, j < n2 → colsAt p (n1 + j) = colsAt p2 j) :
    mkRows (n1 + n2) (a1 ++ a2) (nm1 ++ nm2) p = mkRows n1 a1 nm1 p1 ++ mkRows n2 a2 nm2 p2 := by
  subst ha
  unfold mkRows
  rewrite [List.range_add, List.map_append, List.map_map]
  congr 1
  · refine List.map_congr_left fun i hi => ?_
    have hi' := List.mem_range.1 hi
    rw [mkRow, mkRow, hp1 i hi', List.getElem?_append_left hi', List.getElem?_append_left (hn ▸ hi')]
  · refine List.map_congr_left fun j hj => ?_
    rw [Function.comp_apply, mkRow, mkRow, hp2 j (List.mem_range.1 hj),
      List.getElem?_append_right (Nat.le_add_right _ _), List.getElem?_append_right (hn ▸ Nat.le_add_right _ _), hn,
      Nat.add_sub_cancel_left]

theorem mkRows_mapCells (f : Row → Row) (hf : f [] = []) (n : Nat) (a : List Row) (names : List (Option String))
    (props : Cols) :
    mkRows n (a.map f) names props = (mkRows n a names props).map (fun r => { r with cells := f r.cells }) := by
  unfold mkRows
  rewrite [List.map_map]
  apply List.map_congr_left
  intro i _
  simp only [Function.comp_def, mkRow, List.getElem?_map]
  cases a[i]? <;> simp only [Option.map, Option.getD, hf]

/-! ## cells of columns -/

theorem colsAt_map_keys (keys : List String) (g : String → List PVal) (i : Nat) :
    colsAt (keys.map (fun k => (k, g k))) i = keys.filterMap (fun k => ((g k)[i]?).map (fun v => (k, v))) := by
  simp only [colsAt, List.filterMap_map, Function.comp_def]

theorem colsAt_eq_map (props : Cols) (i : Nat) (h : ∀ c ∈ props, i < c.2.length) :
    colsAt props i = props.map (fun c => (c.1, (c.2[i]?).getD (.int 0))) := by
  unfold colsAt
  apply filterMap_eq_map_of_some
  intro c hc
  rewrite [List.getElem?_eq_getElem (h c hc)]; rfl

theorem colsAt_keys (props : Cols) (i : Nat) (h : ∀ c ∈ props, i < c.2.length) :
    (colsAt props i).map Prod.fst = props.map Prod.fst := by
  rewrite [colsAt_eq_map props i h, List.map_map]; rfl

theorem propLookup_colsAt (props : Cols) (i : Nat) (k : String) (h : ∀ c ∈ props, i < c.2.length) :
    propLookup (colsAt props i) k = (colLookup props k).bind (fun w => w[i]?) := by
  rewrite [colsAt_eq_map props i h, propLookup_eq_lookup, colLookup_eq_lookup,
         lookup_map_snd (fun w : List PVal => (w[i]?).getD (.int 0))]
  cases e : props.lookup k with
  | none => rfl
  | some w =>
    simp only [Option.map_some, List.getElem?_eq_getElem (h _ (mem_of_lookup_eq_some e)), Option.getD_some,
      Option.bind_some]

theorem kvSet_eq_setKV (ps : List (String × PVal)) (k : String) (v : PVal) : kvSet ps k v = setKV ps k v := by
  induction ps with
  | nil => rfl
  | cons p ps ih => obtain ⟨a, w⟩ := p; dsimp only [kvSet, setKV]; rw [ih]

theorem colsAt_colSet (props : Cols) (k : String) (v : List PVal) (i : Nat) (x : PVal)
    (h : ∀ c ∈ props, i < c.2.length) (hv : v[i]? = some x) :
    colsAt (colSet props k v) i = kvSet (colsAt props i) k x := by
  have hi : i < v.length := (List.getElem?_eq_some_iff.1 hv).1
  have h' : ∀ c ∈ colSet props k v, i < c.2.length := fun c hc =>
    (mem_setKV (colSet_eq_setKV props k v ▸ hc)).elim (h c) fun e => e ▸ hi
  rewrite [colsAt_eq_map _ i h', colsAt_eq_map props i h, colSet_eq_setKV, kvSet_eq_setKV,
         ← setKV_map_snd (fun w : List PVal => (w[i]?).getD (.int 0)), hv]
  rfl

/-! ## key lists -/

theorem dedupKeys_snoc (ks : List String) (k : String) :
    dedupKeys (ks ++ [k]) = if (dedupKeys ks).contains k then dedupKeys ks else dedupKeys ks ++ [k] := by
  unfold dedupKeys
  rewrite [List.foldl_append]
  rfl

theorem dedupKeys_spec (ks : List String) : (dedupKeys ks).Nodup ∧ ∀ k, k ∈ dedupKeys ks ↔ k ∈ ks := by
  induction ks using snoc_induction with
  | hnil => exact ⟨List.nodup_nil, fun _ => Iff.rfl⟩
  | hsnoc l a ih =>
    obtain ⟨h1, h2⟩ := ih
    rewrite [dedupKeys_snoc]
    by_cases hc : a ∈ dedupKeys l
    · rewrite [if_pos (List.contains_iff_mem.2 hc)]
      exact ⟨h1, fun k => by rw [h2, List.mem_append, List.mem_singleton, or_iff_left_of_imp (· ▸ (h2 a).1 hc)]⟩
    · rewrite [if_neg (fun h => hc (List.contains_iff_mem.1 h))]
      exact ⟨List.nodup_append.2 ⟨h1, List.pairwise_singleton _ a, fun x hx y hy e => hc (List.mem_singleton.1 hy ▸ e ▸ hx)⟩,
        fun k => by rw [List.mem_append, List.mem_append, h2]⟩

theorem dedupKeys_nodup (ks : List String) : (dedupKeys ks).Nodup := (dedupKeys_spec ks).1
theorem mem_dedupKeys (ks : List String) (k : String) : k ∈ dedupKeys ks ↔ k ∈ ks := (dedupKeys_spec ks).2 k

theorem dedupKeys_of_nodup (ks : List String) (h : ks.Nodup) : dedupKeys ks = ks := by
  induction ks using snoc_induction with
  | hnil => rfl
  | hsnoc l a ih =>
    rewrite [List.nodup_append] at h
    obtain ⟨h1, _, h3⟩ := h
    rewrite [dedupKeys_snoc, ih h1]
    rw [if_neg fun hc => h3 a (List.contains_iff_mem.1 hc) a (List.mem_singleton_self a) rfl]

theorem colSet_map_keys (ks : List String) (g : String → List PVal) (k0 : String) (v : List PVal) (h : ks.Nodup) :
    colSet (ks.map (fun k => (k, g k))) k0 v =
      (if ks.contains k0 then ks else ks ++ [k0]).map (fun k => (k, if k0 = k then v else g k)) := by
  induction ks with
  | nil => simp [colSet]
  | cons a rest ih =>
    rewrite [List.nodup_cons] at h
    rewrite [List.map_cons, colSet, List.contains_cons]
    by_cases e : a = k0
    · subst e
      rewrite [if_pos rfl, beq_iff_eq.2 rfl, Bool.true_or, if_pos rfl, List.map_cons, if_pos rfl]
      congr 1
      exact List.map_congr_left fun k hk => by rw [if_neg fun (e : a = k) => h.1 (e ▸ hk)]
    · rewrite [if_neg e, ih h.2, beq_eq_false_iff_ne.2 (Ne.symm e), Bool.false_or]
      by_cases hc : rest.contains k0 = true
      · rw [if_pos hc, if_pos hc, List.map_cons, if_neg (Ne.symm e)]
      · rw [if_neg hc, if_neg hc, List.cons_append, List.map_cons, if_neg (Ne.symm e)]

/-- the column a key ends up with after assigning `props` in order: the last assignment -/
def lastCol (props : Cols) (key : String) : List PVal :=
  match props.reverse.find? (fun c => c.1 = key) with
  | some c => c.2
  | none => []

theorem lastCol_snoc (props : Cols) (c : String × List PVal) (key : String) :
    lastCol (props ++ [c]) key = if c.1 = key then c.2 else lastCol props key := by
  unfold lastCol
  rewrite [List.reverse_append]
  by_cases e : c.1 = key <;> simp [e]

/-- a Python dict filled by assignments in order: the keys in the order of their first assignment, each with the
value of its last -/
theorem foldl_colSet_nil (props : Cols) :
    props.foldl (fun a c => colSet a c.1 c.2) [] =
      (dedupKeys (props.map Prod.fst)).map (fun key => (key, lastCol props key)) := by
  induction props using snoc_induction with
  | hnil => rfl
  | hsnoc l c ih =>
    rewrite [List.foldl_append, List.foldl_cons, List.foldl_nil, ih,
           colSet_map_keys _ _ _ _ (dedupKeys_nodup _), List.map_append, List.map_cons, List.map_nil, dedupKeys_snoc]
    apply List.map_congr_left
    intro k _
    rw [lastCol_snoc]

theorem foldl_colSet_keys_nil (keys : List String) (g : String → List PVal) :
    keys.foldl (fun acc k => colSet acc k (g k)) [] = (dedupKeys keys).map (fun k => (k, g k)) := by
  induction keys using snoc_induction with
  | hnil => rfl
  | hsnoc l c ih =>
    rewrite [List.foldl_append, List.foldl_cons, List.foldl_nil, ih,
           colSet_map_keys _ _ _ _ (dedupKeys_nodup _), dedupKeys_snoc]
    apply List.map_congr_left
    intro k _
    by_cases e : c = k
    · rw [if_pos e, e]
    · rw [if_neg e]

end E3fpVerif
