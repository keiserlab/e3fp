import E3fpVerif.Model.Geom
/-!
# `firstUnique`, the selection behind the y- and z-axis choice

`firstUnique_some`: the index returned carries the first key that occurs once - in a list sorted by key, the least
such key (`firstUnique_least`).  `firstUnique_eq_none_iff`: none is returned iff no key occurs exactly once; then the
lists of one and two keys.
-/
namespace E3fpVerif

theorem firstUnique_some {κ : Type} [DecidableEq κ] (keys : List κ) (i : Nat) (h : firstUnique keys = some i) :
    ∃ hi : i < keys.length, keys.count keys[i] = 1 ∧ ∀ j (hj : j < i), keys.count (keys[j]'(Nat.lt_trans hj hi)) ≠ 1 := by
  unfold firstUnique at h
  simp only [Option.map_eq_some_iff] at h
  obtain ⟨p, hp, rfl⟩ := h
  rewrite [List.find?_eq_some_iff_getElem] at hp
  obtain ⟨hc, j, hj, hjp, hbefore⟩ := hp
  simp only [List.length_zipIdx] at hj
  simp only [List.getElem_zipIdx, Nat.zero_add] at hjp
  subst hjp
  refine ⟨hj, by simpa using hc, ?_⟩
  intro j' hj'
  have := hbefore j' hj'
  simpa using this

theorem firstUnique_least {κ : Type} [DecidableEq κ] {lt : κ → κ → Prop} (irr : ∀ a, ¬ lt a a) {keys : List κ}
    (hs : keys.Pairwise (fun a b => ¬ lt b a)) {i : Nat} (h : firstUnique keys = some i) :
    ∃ hi : i < keys.length, keys.count keys[i] = 1 ∧ ∀ k ∈ keys, keys.count k = 1 → ¬ lt k keys[i] := by
  obtain ⟨hi, hcnt, hbefore⟩ := firstUnique_some keys i h
  refine ⟨hi, hcnt, ?_⟩
  intro k hk hc
  obtain ⟨j, hj, rfl⟩ := List.getElem_of_mem hk
  rcases Nat.lt_trichotomy j i with hji | rfl | hji
  · exact absurd hc (hbefore j hji)
  · exact irr _
  · exact List.pairwise_iff_getElem.1 hs i j hi hj hji

theorem firstUnique_eq_none_iff {κ : Type} [DecidableEq κ] (keys : List κ) :
    firstUnique keys = none ↔ ∀ k ∈ keys, keys.count k ≠ 1 := by
  unfold firstUnique
  simp only [Option.map_eq_none_iff, List.find?_eq_none, beq_iff_eq]
  constructor
  · intro h k hk
    obtain ⟨i, hi, rfl⟩ := List.getElem_of_mem hk
    exact h (keys[i], i) (List.mem_zipIdx_iff_getElem?.2 (by simp [hi]))
  · intro h p hp
    exact h p.1 (List.mem_of_getElem? (List.mem_zipIdx_iff_getElem?.1 hp))

theorem firstUnique_pair {κ : Type} [DecidableEq κ] (k : κ) : firstUnique [k, k] = none := by
  simp [firstUnique, List.zipIdx]

theorem firstUnique_pair_iff {κ : Type} [DecidableEq κ] (a b : κ) : firstUnique [a, b] = none ↔ a = b := by
  refine ⟨fun h => Decidable.byContradiction fun hne => ?_, fun h => h ▸ firstUnique_pair a⟩
  exact (firstUnique_eq_none_iff _).1 h a List.mem_cons_self (by simp [Ne.symm hne])

theorem firstUnique_singleton {κ : Type} [DecidableEq κ] (k : κ) : firstUnique [k] = some 0 := by
  simp [firstUnique, List.zipIdx]

end E3fpVerif
