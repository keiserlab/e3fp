import Mathlib.Analysis.SpecialFunctions.Trigonometric.Inverse
import Mathlib.Analysis.SpecialFunctions.Sqrt
import Mathlib.Algebra.Order.Floor.Ring
import Mathlib.Tactic.Ring
import Mathlib.Tactic.LinearCombination
import Mathlib.Tactic.NormNum
import E3fpVerif.Model.Geom
/-!
# The real-number instance of `Scalar`

`Model/Geom.lean` at `α := ℝ` (exact arithmetic, `Real.sqrt`, `Real.arccos`, classical comparisons, `⌊·⌋₊`): the instance
the invariance theorems are about.  Then the equations through which proofs use the operations (`*_def`) and the derived
ones (`abs`, `clip1`, `sign`, `mod2pi`, the quadrant number) without unfolding them, and the facts about `V3 ℝ` that involve
no rotation: dot products, the zero vector, the two cases of `asUnit` (`Stereo.Proper`, `Stereo.NotTiny`: the predicates on
vector length that `Lemmas/StereoSym.lean` is stated with), angles, the length of a projection.
-/
namespace E3fpVerif

open Classical in
noncomputable instance instScalarReal : Scalar ℝ where
  add a b := a + b
  sub a b := a - b
  mul a b := a * b
  div a b := a / b
  neg a := -a
  sqrt := Real.sqrt
  acos := Real.arccos
  ofNat n := (n : ℝ)
  lt a b := decide (a < b)
  le a b := decide (a ≤ b)
  beq a b := decide (a = b)
  truncNat a := ⌊a⌋₊
  pi := Real.pi
  eps := (Gen.EPS_Q.1 : ℝ) / (Gen.EPS_Q.2 : ℝ)
  yPrec := (Gen.Y_AXIS_PRECISION_Q.1 : ℝ) / (Gen.Y_AXIS_PRECISION_Q.2 : ℝ)
  zPrec := (Gen.Z_AXIS_PRECISION_Q.1 : ℝ) / (Gen.Z_AXIS_PRECISION_Q.2 : ℝ)

namespace RealScalar

@[simp] theorem add_def (a b : ℝ) : Scalar.add a b = a + b := rfl
@[simp] theorem sub_def (a b : ℝ) : Scalar.sub a b = a - b := rfl
@[simp] theorem mul_def (a b : ℝ) : Scalar.mul a b = a * b := rfl
@[simp] theorem div_def (a b : ℝ) : Scalar.div a b = a / b := rfl
@[simp] theorem neg_def (a : ℝ) : Scalar.neg a = -a := rfl
@[simp] theorem sqrt_def (a : ℝ) : Scalar.sqrt a = Real.sqrt a := rfl
@[simp] theorem acos_def (a : ℝ) : Scalar.acos a = Real.arccos a := rfl
@[simp] theorem ofNat_def (n : Nat) : (Scalar.ofNat n : ℝ) = (n : ℝ) := rfl
@[simp] theorem lt_def (a b : ℝ) : (Scalar.lt a b = true) ↔ a < b := decide_eq_true_iff
@[simp] theorem le_def (a b : ℝ) : (Scalar.le a b = true) ↔ a ≤ b := decide_eq_true_iff
@[simp] theorem beq_def (a b : ℝ) : (Scalar.beq a b = true) ↔ a = b := decide_eq_true_iff
@[simp] theorem truncNat_def (a : ℝ) : Scalar.truncNat a = ⌊a⌋₊ := rfl
@[simp] theorem pi_def : (Scalar.pi : ℝ) = Real.pi := rfl
theorem eps_def : (Scalar.eps : ℝ) = 1 / 1000000000000 := by
  show ((Gen.EPS_Q.1 : ℕ) : ℝ) / ((Gen.EPS_Q.2 : ℕ) : ℝ) = _
  rw [Gen.EPS_Q, Nat.cast_one, Nat.cast_ofNat]
theorem yPrec_def : (Scalar.yPrec : ℝ) = 1 / 10 := by
  show ((Gen.Y_AXIS_PRECISION_Q.1 : ℕ) : ℝ) / ((Gen.Y_AXIS_PRECISION_Q.2 : ℕ) : ℝ) = _
  rw [Gen.Y_AXIS_PRECISION_Q, Nat.cast_one, Nat.cast_ofNat]
theorem zPrec_def : (Scalar.zPrec : ℝ) = 1 / 100 := by
  show ((Gen.Z_AXIS_PRECISION_Q.1 : ℕ) : ℝ) / ((Gen.Z_AXIS_PRECISION_Q.2 : ℕ) : ℝ) = _
  rw [Gen.Z_AXIS_PRECISION_Q, Nat.cast_one, Nat.cast_ofNat]
@[simp] theorem zero_def : (Scalar.zero : ℝ) = 0 := Nat.cast_zero
@[simp] theorem one_def : (Scalar.one : ℝ) = 1 := Nat.cast_one
@[simp] theorem two_def : (Scalar.two : ℝ) = 2 := Nat.cast_ofNat

theorem eps_pos : (0 : ℝ) < Scalar.eps := by rewrite [eps_def]; norm_num

theorem eps_le_one : (Scalar.eps : ℝ) ≤ 1 := by rewrite [eps_def]; norm_num

theorem eps_le_half_pi : (Scalar.eps : ℝ) ≤ Real.pi / 2 := eps_le_one.trans Real.one_le_pi_div_two

theorem pi_div_four_pos : 0 < Real.pi / 4 := by positivity

/-! ## the derived scalar operations -/

theorem abs_def (a : ℝ) : Scalar.abs a = |a| := by
  unfold Scalar.abs
  split
  · rename_i h
    rewrite [lt_def, zero_def] at h
    rewrite [abs_of_neg h]; rfl
  · rename_i h
    rewrite [lt_def, zero_def, not_lt] at h
    rw [abs_of_nonneg h]

theorem clip1_id {x : ℝ} (h1 : -1 ≤ x) (h2 : x ≤ 1) : Scalar.clip1 x = x := by
  unfold Scalar.clip1
  rw [if_neg, if_neg]
  · rewrite [lt_def, one_def]; exact not_lt.2 h2
  · rewrite [lt_def, neg_def, one_def]; exact not_lt.2 h1

theorem clip1_one : Scalar.clip1 (1 : ℝ) = 1 := clip1_id (by norm_num) le_rfl

theorem sign_zero : Scalar.sign (0 : ℝ) = 0 := by
  unfold Scalar.sign
  rewrite [if_neg, if_neg] <;> simp

theorem sign_of_pos {a : ℝ} (h : 0 < a) : Scalar.sign a = 1 := by
  unfold Scalar.sign
  rw [if_pos (by rewrite [lt_def, zero_def]; exact h)]

theorem mod2pi_of_mem {a : ℝ} (h0 : 0 ≤ a) (h1 : a < 2 * Real.pi) : V3.mod2pi a = a := by
  unfold V3.mod2pi
  simp only [mul_def, two_def, pi_def, zero_def]
  rw [if_neg (by rewrite [le_def]; exact not_le.2 h1), if_neg (by rewrite [lt_def]; exact not_lt.2 h0)]

/-- `signedAngle` adds `2π` to its (possibly negative) angle before reducing it -/
theorem mod2pi_add_two_pi {a : ℝ} (h0 : 0 ≤ a) : V3.mod2pi (Scalar.add a (Scalar.mul Scalar.two Scalar.pi)) = a := by
  unfold V3.mod2pi
  simp only [add_def, mul_def, two_def, pi_def, sub_def]
  rw [if_pos (by rewrite [le_def]; exact le_add_of_nonneg_left h0), add_sub_cancel_right]

/-- the quadrant number `⌊x / (π/2)⌋` in the form `stereoIndicators` computes it -/
theorem quadrant_eq {x : ℝ} (n : Nat) (hlo : (n : ℝ) * (Real.pi / 2) ≤ x) (hhi : x < (n + 1) * (Real.pi / 2)) :
    ⌊x * 4 / (2 * Real.pi)⌋₊ = n := by
  have h2 := Real.two_pi_pos
  exact Nat.floor_eq_on_Ico n _
    ⟨(le_div_iff₀ h2).2 (by linear_combination 4 * hlo), (div_lt_iff₀ h2).2 (by linear_combination 4 * hhi)⟩

/-! ## vectors -/

theorem v3_ext {u v : V3 ℝ} (hx : u.x = v.x) (hy : u.y = v.y) (hz : u.z = v.z) : u = v := by
  cases u; cases v; simp_all

theorem dot_comm (u v : V3 ℝ) : V3.dot u v = V3.dot v u := by
  simp only [V3.dot, add_def, mul_def]; ring

theorem dot_smul_left (c : ℝ) (u v : V3 ℝ) : V3.dot (V3.smul c u) v = c * V3.dot u v := by
  simp only [V3.dot, V3.smul, add_def, mul_def]; ring

theorem dot_sdiv_sdiv (u v : V3 ℝ) (r s : ℝ) : V3.dot (V3.sdiv u r) (V3.sdiv v s) = V3.dot u v / (r * s) := by
  simp only [V3.dot, V3.sdiv, add_def, mul_def, div_def]
  ring

theorem dot_cross_self (u : V3 ℝ) (n : V3 ℝ) : V3.dot n (V3.cross u u) = 0 := by
  simp only [V3.dot, V3.cross, add_def, mul_def, sub_def]; ring

theorem dot_self_nonneg (v : V3 ℝ) : 0 ≤ V3.dot v v := by
  simp only [V3.dot, add_def, mul_def]
  exact add_nonneg (add_nonneg (mul_self_nonneg _) (mul_self_nonneg _)) (mul_self_nonneg _)

theorem isZero_iff (u : V3 ℝ) : V3.isZero u = true ↔ u.x = 0 ∧ u.y = 0 ∧ u.z = 0 := by
  simp only [V3.isZero, zero_def, Bool.and_eq_true, beq_def, and_assoc]

theorem isZero_iff_dot_self (u : V3 ℝ) : V3.isZero u = true ↔ V3.dot u u = 0 := by
  rewrite [isZero_iff]
  simp only [V3.dot, add_def, mul_def]
  rw [add_eq_zero_iff_of_nonneg (add_nonneg (mul_self_nonneg u.x) (mul_self_nonneg u.y)) (mul_self_nonneg u.z),
    mul_self_add_mul_self_eq_zero, mul_self_eq_zero, and_assoc]

theorem dot_self_of_isZero {w : V3 ℝ} (h : V3.isZero w = true) : V3.dot w w = 0 := (isZero_iff_dot_self w).1 h

theorem dot_zero_right (u : V3 ℝ) {z : V3 ℝ} (hz : V3.isZero z = true) : V3.dot u z = 0 := by
  obtain ⟨hx, hy, hzz⟩ := (isZero_iff z).1 hz
  simp [V3.dot, hx, hy, hzz]

end RealScalar

/-! ## `as_unit`, angles and projections

`as_unit` normalises a vector iff its squared length is at least `EPS` (`Proper`); it leaves the others as they
are, which does no harm if they are zero (`NotTiny`). -/

namespace Stereo

/-- not shorter than `√EPS` (`as_unit` normalises the vector) -/
def Proper (v : V3 ℝ) : Prop := (Scalar.eps : ℝ) ≤ V3.dot v v

/-- zero, or not shorter than `√EPS`: `as_unit` does not leave it as a short non-zero vector -/
def NotTiny (w : V3 ℝ) : Prop := V3.isZero w = true ∨ Proper w

theorem Proper.pos {v : V3 ℝ} (h : Proper v) : 0 < V3.dot v v := lt_of_lt_of_le RealScalar.eps_pos h

end Stereo

namespace RealScalar
open Stereo

theorem isZero_proper {v : V3 ℝ} (h : Proper v) : V3.isZero v = false :=
  Bool.eq_false_iff.2 fun hz => h.pos.ne' (dot_self_of_isZero hz)

theorem asUnit_of_le {v : V3 ℝ} (h : Proper v) :
    V3.asUnit v = V3.sdiv v (Real.sqrt (V3.dot v v)) := by
  unfold V3.asUnit
  dsimp only
  rewrite [if_neg (by rewrite [lt_def]; exact not_lt.2 h)]
  rfl

theorem asUnit_of_lt {v : V3 ℝ} (h : V3.dot v v < Scalar.eps) : V3.asUnit v = v := by
  unfold V3.asUnit
  dsimp only
  rw [if_pos ((lt_def _ _).2 h)]

theorem asUnit_zero {v : V3 ℝ} (h : V3.isZero v = true) : V3.asUnit v = v :=
  asUnit_of_lt (by rewrite [dot_self_of_isZero h]; exact eps_pos)

theorem dot_asUnit_asUnit {a b : V3 ℝ} (ha : Proper a) (hb : Proper b) :
    V3.dot (V3.asUnit b) (V3.asUnit a) = V3.dot b a / (Real.sqrt (V3.dot b b) * Real.sqrt (V3.dot a a)) := by
  rw [asUnit_of_le ha, asUnit_of_le hb, dot_sdiv_sdiv]

theorem dot_asUnit_self {v : V3 ℝ} (h : Proper v) : V3.dot (V3.asUnit v) (V3.asUnit v) = 1 := by
  rw [dot_asUnit_asUnit h h, Real.mul_self_sqrt h.pos.le, div_self h.pos.ne']

theorem isZero_asUnit_proper {v : V3 ℝ} (h : Proper v) : V3.isZero (V3.asUnit v) = false :=
  Bool.eq_false_iff.2 fun hz => one_ne_zero ((dot_asUnit_self h).symm.trans (dot_self_of_isZero hz))

theorem angle_def (v ref : V3 ℝ) : V3.angle v ref = if V3.isZero (V3.asUnit v) = true then 0
    else Real.arccos (Scalar.clip1 (V3.dot (V3.asUnit v) (V3.asUnit ref))) := by
  rewrite [← zero_def]
  rfl

theorem angle_nonneg (v ref : V3 ℝ) : 0 ≤ V3.angle v ref := by
  rewrite [angle_def]
  split
  · exact le_rfl
  · exact Real.arccos_nonneg _

theorem angle_proper {a b : V3 ℝ} (ha : Proper a) (hb : Proper b) :
    V3.angle b a = Real.arccos (Scalar.clip1 (V3.dot b a / (Real.sqrt (V3.dot b b) * Real.sqrt (V3.dot a a)))) := by
  rw [angle_def, isZero_asUnit_proper hb, if_neg Bool.false_ne_true, dot_asUnit_asUnit ha hb]

theorem angle_self {v : V3 ℝ} (h : Proper v) : V3.angle v v = 0 := by
  rw [angle_proper h h, Real.mul_self_sqrt h.pos.le, div_self h.pos.ne', clip1_one, Real.arccos_one]

theorem angle_comm {a b : V3 ℝ} (ha : Proper a) (hb : Proper b) : V3.angle a b = V3.angle b a := by
  rw [angle_proper hb ha, angle_proper ha hb, dot_comm, mul_comm]

theorem angle_self_tiny {w : V3 ℝ} (hnz : V3.isZero w = false) (ht : V3.dot w w < Scalar.eps) :
    V3.angle w w = Real.arccos (V3.dot w w) := by
  rw [angle_def, asUnit_of_lt ht, hnz, if_neg Bool.false_ne_true,
    clip1_id (neg_one_lt_zero.le.trans (dot_self_nonneg w)) (ht.le.trans eps_le_one)]

theorem angle_zero_right {b z : V3 ℝ} (hb : Proper b) (hz : V3.isZero z = true) : V3.angle b z = Real.pi / 2 := by
  rw [angle_def, isZero_asUnit_proper hb, if_neg Bool.false_ne_true, asUnit_zero hz, dot_zero_right _ hz,
    clip1_id (by norm_num) (by norm_num), Real.arccos_zero]

/-- a vector is neither to the left nor to the right of itself: its signed angle against itself is the
plain angle (which `as_unit` makes 0 only if it normalises the vector, or the vector is 0) -/
theorem signedAngle_self_eq (w n : V3 ℝ) : V3.signedAngle w w n = V3.angle w w := by
  have h : V3.signedAngle w w n = V3.mod2pi (Scalar.add
      (if Scalar.sign (V3.dot n (V3.cross (V3.asUnit w) (V3.asUnit w))) = -1 then Scalar.neg (V3.angle w w)
        else V3.angle w w) (Scalar.mul Scalar.two Scalar.pi)) := rfl
  rw [h, dot_cross_self, sign_zero, if_neg (by decide), mod2pi_add_two_pi (angle_nonneg w w)]

theorem dot_proj_unit (v u : V3 ℝ) (hu : V3.dot u u = 1) :
    V3.dot (V3.sub v (V3.smul (V3.dot v u) u)) (V3.sub v (V3.smul (V3.dot v u) u)) = V3.dot v v - (V3.dot v u) ^ 2 := by
  -- with `c = v·u` the difference of the two sides is `-2c (v·u - c) + c² (|u|² - 1)`
  generalize hc : V3.dot v u = c
  simp only [V3.dot, V3.sub, V3.smul, add_def, mul_def, sub_def] at *
  linear_combination (-2 * c) * hc + c ^ 2 * hu

theorem dot_projectToPlane {v n : V3 ℝ} (hn : Proper n) :
    V3.dot (V3.projectToPlane v n) (V3.projectToPlane v n) = V3.dot v v - (V3.dot v n) ^ 2 / V3.dot n n := by
  unfold V3.projectToPlane
  dsimp only
  rewrite [dot_proj_unit v _ (dot_asUnit_self hn), asUnit_of_le hn]
  have e : V3.dot v (V3.sdiv n (Real.sqrt (V3.dot n n))) = V3.dot v n / Real.sqrt (V3.dot n n) := by
    simp only [V3.dot, V3.sdiv, add_def, mul_def, div_def]
    ring
  rw [e, div_pow, Real.sq_sqrt hn.pos.le]

theorem angle_of_proj_zero {a b : V3 ℝ} (ha : Proper a) (hb : Proper b)
    (hz : V3.isZero (V3.projectToPlane b a) = true) : V3.angle b a = 0 ∨ V3.angle b a = Real.pi := by
  -- `|b|² - (b·a)² / |a|² = 0`, so the cosine squared is 1
  have h0 := dot_self_of_isZero hz
  rewrite [dot_projectToPlane ha] at h0
  have hc2 : (V3.dot b a / (Real.sqrt (V3.dot b b) * Real.sqrt (V3.dot a a))) ^ 2 = 1 := by
    rewrite [div_pow, mul_pow, Real.sq_sqrt hb.pos.le, Real.sq_sqrt ha.pos.le, mul_comm, ← div_div, ← sub_eq_zero.1 h0]
    exact div_self hb.pos.ne'
  rewrite [angle_proper ha hb]
  rcases sq_eq_one_iff.1 hc2 with h | h
  · left; rw [h, clip1_one, Real.arccos_one]
  · right; rw [h, clip1_id le_rfl (by norm_num), Real.arccos_neg_one]

theorem projectToPlane_zero (b : V3 ℝ) {z : V3 ℝ} (hz : V3.isZero z = true) : V3.projectToPlane b z = b := by
  unfold V3.projectToPlane
  simp only [asUnit_zero hz, dot_zero_right b hz, V3.sub, V3.smul, sub_def, mul_def, mul_zero, sub_zero]

end RealScalar
end E3fpVerif
