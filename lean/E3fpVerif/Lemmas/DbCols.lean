import E3fpVerif.Model.Db
import E3fpVerif.Lemmas.ListAux
/-!
# Property columns (`colSet`, `colLookup`) and `Db.fromArray`

`colLookup` / `propLookup` are `List.lookup` and `colSet` is `setKV` (`Lemmas/ListAux.lean`, section `dict`);
what is said here about columns is read off the dictionary lemmas there.  Then what `Db.fromArray` returns
(`fromArray_ok`, `fromArray_snd`, `fromArray_eq_ok`) and how its callers read the pair (`pairResult_eq_ok`).
-/
namespace E3fpVerif

abbrev Cols := List (String × List PVal)

theorem colLookup_eq_lookup (ps : Cols) (k : String) : colLookup ps k = ps.lookup k := by
  induction ps with
  | nil => rfl
  | cons p ps ih => obtain ⟨a, w⟩ := p; dsimp only [colLookup]; rw [lookup_cons_ite, ih]

theorem propLookup_eq_lookup (ps : List (String × PVal)) (k : String) : propLookup ps k = ps.lookup k := by
  induction ps with
  | nil => rfl
  | cons p ps ih => obtain ⟨a, w⟩ := p; dsimp only [propLookup]; rw [lookup_cons_ite, ih]

theorem colSet_eq_setKV (ps : Cols) (k : String) (v : List PVal) : colSet ps k v = setKV ps k v := by
  induction ps with
  | nil => rfl
  | cons p ps ih => obtain ⟨a, w⟩ := p; dsimp only [colSet, setKV]; rw [ih]

theorem colSet_of_not_mem (ps : Cols) (k : String) (v : List PVal) (h : k ∉ ps.map Prod.fst) :
    colSet ps k v = ps ++ [(k, v)] := by
  rewrite [colSet_eq_setKV]; exact setKV_of_not_mem ps k v h

theorem colSet_keys (ps : Cols) (k : String) (v : List PVal) :
    (colSet ps k v).map Prod.fst = if (ps.map Prod.fst).contains k then ps.map Prod.fst else ps.map Prod.fst ++ [k] := by
  rewrite [colSet_eq_setKV, setKV_keys]
  exact ite_congr (by rw [List.contains_iff_mem]) (fun _ => rfl) (fun _ => rfl)

theorem propLookup_ne_none_of_mem (ps : List (String × PVal)) (k : String) (h : k ∈ ps.map Prod.fst) :
    propLookup ps k ≠ none := by
  rewrite [propLookup_eq_lookup, ← Option.isSome_iff_ne_none]; exact lookup_isSome_iff.2 h

theorem foldl_colSet_pairs_forall (P : List PVal → Prop) (qs : Cols) (hq : ∀ c ∈ qs, P c.2) :
    ∀ (ps : Cols), (ps.map Prod.fst).Nodup → (∀ c ∈ ps, P c.2) →
      let r := qs.foldl (fun acc c => colSet acc c.1 c.2) ps
      (r.map Prod.fst).Nodup ∧ ∀ c ∈ r, P c.2 := by
  induction qs with
  | nil => intro ps h1 h2; exact ⟨h1, h2⟩
  | cons q qs ih =>
    intro ps h1 h2
    rewrite [List.foldl_cons, colSet_eq_setKV]
    exact ih (fun c hc => hq c (List.mem_cons_of_mem _ hc)) _ (setKV_nodup ps q.1 _ h1) fun c hc =>
      (mem_setKV hc).elim (h2 c) fun e => e ▸ hq q List.mem_cons_self

theorem foldl_colSet_self_gen (g : String → List PVal) (qs : Cols) :
    ∀ (done : Cols), ((done ++ qs).map Prod.fst).Nodup →
      (qs.map Prod.fst).foldl (fun acc k => colSet acc k (g k)) (done ++ qs) =
        done ++ qs.map (fun c => (c.1, g c.1)) := by
  induction qs with
  | nil => intro done _; rfl
  | cons q qs ih =>
    intro done hnd
    have hk : q.1 ∉ done.map Prod.fst := fun hm =>
      (List.nodup_append.mp (List.map_append ▸ hnd)).2.2 q.1 hm q.1 List.mem_cons_self rfl
    rewrite [List.map_cons, List.foldl_cons, colSet_eq_setKV, setKV_append_of_not_mem done qs q.1 q.2 (g q.1) hk,
           List.append_cons, ih _ (by simpa [List.map_append] using hnd), List.append_assoc]
    rfl

/-- re-assigning every key of a duplicate-free dict, in its own order, changes the values only -/
theorem foldl_colSet_self (g : String → List PVal) (ps : Cols) (h : (ps.map Prod.fst).Nodup) :
    (ps.map Prod.fst).foldl (fun acc k => colSet acc k (g k)) ps = ps.map (fun c => (c.1, g c.1)) :=
  foldl_colSet_self_gen g ps [] h

/-- an empty dict filled from duplicate-free `ps` is `ps` (any `ps`: `foldl_colSet_nil` in `Lemmas/DbRows.lean`) -/
theorem foldl_colSet_insert (ps : Cols) (h : (ps.map Prod.fst).Nodup) :
    ps.foldl (fun acc c => colSet acc c.1 c.2) [] = ps := by
  simp only [colSet_eq_setKV]
  exact foldl_setKV_of_nodup ps [] h

theorem foldl_setCols (ps : Cols) : ∀ db : Db,
    ps.foldl (fun acc c => { acc with props := colSet acc.props c.1 c.2 }) db =
      { db with props := ps.foldl (fun a c => colSet a c.1 c.2) db.props } := by
  induction ps with
  | nil => intro db; rfl
  | cons c rest ih => intro db; rw [List.foldl_cons, ih, List.foldl_cons]

theorem fpNum_eq (db : Db) : db.fpNum = (db.array.getD []).length := by
  unfold Db.fpNum; cases db.array <;> rfl

/-- `update_props` with `check_length`, as `from_array` runs it: all columns are inserted, or the first one of
another length than the name list stops it -/
theorem fromArray_go (ps : Cols) (acc : Db) :
    ((∀ c ∈ ps, c.2.length = acc.fpNames.length) →
      Db.fromArray.go acc ps = ({ acc with props := ps.foldl (fun a c => colSet a c.1 c.2) acc.props }, none)) ∧
    (¬ (∀ c ∈ ps, c.2.length = acc.fpNames.length) → (Db.fromArray.go acc ps).2 = some .value) := by
  induction ps generalizing acc with
  | nil => exact ⟨fun _ => rfl, fun h => absurd (fun _ hc => nomatch hc) h⟩
  | cons c rest ih =>
    obtain ⟨k, v⟩ := c
    have ih' := ih { acc with props := colSet acc.props k v }
    unfold Db.fromArray.go
    by_cases hv : v.length = acc.fpNames.length
    · rewrite [if_neg fun h => h hv, List.forall_mem_cons, and_iff_right hv]
      exact ih'
    · rewrite [if_pos hv]
      exact ⟨fun h => absurd (h _ List.mem_cons_self) hv, fun _ => rfl⟩

theorem fromArray_ok (rows : List Row) (bits : Nat) (names : List (Option String)) (k : Kind) (level : Int)
    (name : Option String) (props : Cols) (h : ∀ c ∈ props, c.2.length = names.length) :
    Db.fromArray rows bits names k level name props =
      ({ fpType := k, level := level, name := name,
         array := some (rows.map (fun r => r.map (fun p => (p.1, castVal k p.2)))), bits := bits,
         fpNames := names, namesMap := updateNamesMap [] names 0,
         props := props.foldl (fun a c => colSet a c.1 c.2) [] }, none) :=
  (fromArray_go props _).1 h

theorem fromArray_snd (rows : List Row) (bits : Nat) (names : List (Option String)) (k : Kind) (level : Int)
    (name : Option String) (props : Cols) :
    (Db.fromArray rows bits names k level name props).2 =
      if ∀ c ∈ props, c.2.length = names.length then none else some .value := by
  by_cases h : ∀ c ∈ props, c.2.length = names.length
  · rw [if_pos h, fromArray_ok _ _ _ _ _ _ _ h]
  · rewrite [if_neg h]; exact (fromArray_go props _).2 h

theorem fromArray_ok_iff (rows : List Row) (bits : Nat) (names : List (Option String)) (k : Kind) (level : Int)
    (name : Option String) (props : Cols) :
    (Db.fromArray rows bits names k level name props).2 = none ↔ ∀ c ∈ props, c.2.length = names.length := by
  rewrite [fromArray_snd]
  by_cases h : ∀ c ∈ props, c.2.length = names.length
  · rewrite [if_pos h]; exact ⟨fun _ => h, fun _ => rfl⟩
  · rewrite [if_neg h]; exact ⟨(fun e => by cases e), fun h' => absurd h' h⟩

theorem fromArray_eq_ok (rows : List Row) (bits : Nat) (names : List (Option String)) (k : Kind) (level : Int)
    (name : Option String) (props : Cols) (d : Db) :
    Db.fromArray rows bits names k level name props = (d, none) ↔
      (∀ c ∈ props, c.2.length = names.length) ∧
      d = { fpType := k, level := level, name := name,
            array := some (rows.map (fun r => r.map (fun p => (p.1, castVal k p.2)))), bits := bits,
            fpNames := names, namesMap := updateNamesMap [] names 0,
            props := props.foldl (fun a c => colSet a c.1 c.2) [] } := by
  constructor
  · intro h
    have hc := (fromArray_ok_iff ..).1 (congrArg Prod.snd h)
    rewrite [fromArray_ok _ _ _ _ _ _ _ hc] at h
    exact ⟨hc, (Prod.mk.inj h).1.symm⟩
  · rintro ⟨hc, rfl⟩
    exact fromArray_ok _ _ _ _ _ _ _ hc

/-- `get_subset`, `as_type`, `fold` and `load` all end by reading the `(database, error)` pair of
`from_array` as a result, with one and the same `match` (Lean shares its matcher, named after the
first of them): the result is a success exactly when the pair holds no error -/
theorem pairResult_eq_ok (r : Db × Option Err) (d : Db) :
    Db.subset.match_1 (fun _ => Except Err Db) r (fun d => Except.ok d) (fun _ e => Except.error e) = .ok d ↔
      r = (d, none) := by
  obtain ⟨d', _ | e⟩ := r
  · exact ⟨fun h => by rw [Except.ok.inj h], fun h => by rw [(Prod.mk.inj h).1]⟩
  · exact ⟨(fun h => by cases h), fun h => by cases h⟩

end E3fpVerif
