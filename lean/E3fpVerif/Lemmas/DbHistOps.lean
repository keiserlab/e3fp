import E3fpVerif.Lemmas.DbHist
import E3fpVerif.Lemmas.DbRows
import E3fpVerif.Props.C08
import E3fpVerif.Props.C16
/-!
# Every database operation refines its list-of-rows specification

One lemma per operation of `Model/DbHist.lean`: the abstraction `Db.spec` of the result of the operational model equals
the result of the specification on the abstraction of the operands, for operands satisfying `Db.Inv`; where both sides
are chains of checks the proof goes down the two chains in step (`map_ite_congr`), which keeps every error code with
its check.  `fprintAt_spec` and `spec_named_eq` (reads) are what `Props/C05Hist.lean` lifts to `db[i]` / `db[name]`;
the second also serves `get_subset`.  Then the operations as actions on pools (`DbOp.act`, `DbOp.sact`, `act_sim`), from which
`Props/C05Hist.lean` gets the step theorems.
-/
namespace E3fpVerif
open E3fpVerif.Props

theorem SDb.eq_of {a b : SDb} (h1 : a.kind = b.kind) (h2 : a.level = b.level) (h3 : a.name = b.name)
    (h4 : a.bits = b.bits) (h5 : a.keys = b.keys) (h6 : a.rows = b.rows) : a = b := by
  cases a; cases b; simp_all

/-! ## `add` -/

theorem spec_rows_length (db : Db) : db.spec.rows.length = db.fpNum := absRows_length db

theorem spec_bits_getD (db : Db) (h : db.fpNum > 0) : db.spec.bits.getD 0 = db.bits := by
  unfold Db.fpNum at h
  cases ha : db.array with
  | none => simp [ha] at h
  | some a => simp [Db.spec, ha]

theorem spec_expectedBits (db : Db) (fps : List FpIn) : db.spec.expectedBits fps = db.expectedBits fps := by
  unfold SDb.expectedBits Db.expectedBits
  rewrite [spec_rows_length]
  exact ite_congr rfl (spec_bits_getD db) fun _ => rfl

theorem spec_expectedKeys (db : Db) (fps : List FpIn) :
    db.spec.expectedKeys fps =
      if db.fpNum > 0 ∨ db.props ≠ [] then db.props.map Prod.fst
      else dedupKeys ((fps.head?.map (fun f => f.props.map Prod.fst)).getD []) := by
  unfold SDb.expectedKeys
  rewrite [spec_rows_length]
  exact ite_congr (propext (or_congr Iff.rfl (not_congr List.map_eq_nil_iff))) (fun _ => rfl) (fun _ => rfl)

theorem spec_expectedKeys_mem (db : Db) (fps : List FpIn) (k : String) :
    k ∈ db.spec.expectedKeys fps ↔ k ∈ db.expectedProps fps := by
  rw [spec_expectedKeys, Db.expectedProps, apply_ite (k ∈ ·), apply_ite (k ∈ ·), mem_dedupKeys]

theorem spec_badProps (db : Db) (fps : List FpIn) :
    fps.any (fun f => (db.spec.expectedKeys fps).any (fun k => (propLookup f.props k).isNone)) = db.badProps fps := by
  unfold Db.badProps
  exact congrArg fps.any (funext fun f => any_congr_set _ _ _ (spec_expectedKeys_mem db fps))

/-- the cells a batch contributes to column `k` -/
def batchCol (fps : List FpIn) (k : String) : List PVal := fps.map (fun f => (propLookup f.props k).getD (.int 0))

theorem mkRows_batch (k : Kind) (keys : List String) (fps : List FpIn) :
    mkRows fps.length (fps.map (fun f => fpRow k f.fp)) (fps.map (·.name)) (keys.map (fun k => (k, batchCol fps k))) =
      fps.map (addRow k keys) := by
  apply mkRows_eq_map
  intro i hi
  simp only [mkRow, addRow, colsAt_map_keys, batchCol, List.getElem?_map, List.getElem?_eq_getElem hi,
    Option.map_some, Option.getD_some]
  congr 1
  exact filterMap_eq_map_of_some _ _ _ (fun _ _ => rfl)

theorem addOk_colsAt (db : Db) (fps : List FpIn) (h : db.Inv) :
    (db.addOk fps).props.map Prod.fst = db.spec.expectedKeys fps ∧
    ∀ j, j < fps.length → colsAt (db.addOk fps).props (db.fpNum + j) =
      colsAt ((db.spec.expectedKeys fps).map (fun k => (k, batchCol fps k))) j := by
  have hp := C05.addOk_props db fps h
  have hk := spec_expectedKeys db fps
  by_cases hc : db.fpNum > 0 ∨ db.props ≠ []
  · rewrite [if_pos hc] at hp hk
    rewrite [hp, hk]
    refine ⟨by rewrite [List.map_map]; rfl, fun j _ => ?_⟩
    unfold colsAt
    rewrite [List.map_map, List.filterMap_map, List.filterMap_map]
    refine filterMap_congr_mem fun c hc => ?_
    simp only [Function.comp_def, batchCol]
    rw [List.getElem?_append_right (by rewrite [h.col_length c hc]; exact Nat.le_add_right _ _), h.col_length c hc,
      Nat.add_sub_cancel_left]
  · rewrite [if_neg hc] at hp hk
    have h0 : db.fpNum = 0 := Nat.eq_zero_of_not_pos fun hh => hc (.inl hh)
    rewrite [hp, hk, h0, foldl_colSet_keys_nil]
    exact ⟨by rewrite [List.map_map]; exact List.map_id' _, fun j _ => by rewrite [Nat.zero_add]; rfl⟩

theorem addOk_spec (db : Db) (fps : List FpIn) (h : db.Inv) : (db.addOk fps).spec = db.spec.added fps := by
  obtain ⟨hk, hnew⟩ := addOk_colsAt db fps h
  unfold SDb.added
  refine SDb.eq_of rfl rfl rfl ?_ hk ?_
  · exact congrArg some (spec_expectedBits db fps).symm
  · show (db.addOk fps).absRows = db.absRows ++ fps.map (addRow db.fpType (db.spec.expectedKeys fps))
    rewrite [← mkRows_batch, absRows_eq, absRows_eq, C05.addOk_fpNum]
    exact mkRows_append _ _ _ _ _ _ _ _ _ (fpNum_eq db).symm h.names_length (C05.addOk_old_cells db fps h) hnew

theorem add_refines (db : Db) (fps : List FpIn) (h : db.Inv) :
    (db.add fps).map Db.spec id = db.spec.add fps := by
  unfold Db.add SDb.add
  rewrite [spec_badProps, spec_expectedBits]
  -- the same four checks on both sides
  exact map_ite_congr _ rfl (fun _ => rfl) fun _ => map_ite_congr _ rfl (fun _ => rfl) fun _ =>
    map_ite_congr _ rfl (fun _ => rfl) fun _ => map_ite_congr _ rfl (fun _ => rfl) fun _ => by
      show ((db.addOk fps).spec, none) = _
      rewrite [addOk_spec db fps h, SDb.added, spec_expectedBits]; rfl

/-! ## `set_prop`, `update_props` -/

theorem setProp_refines (db : Db) (key : String) (vals : List PVal) (h : db.Inv) :
    (db.setProp key vals).map Db.spec id = db.spec.setProp key vals := by
  unfold Db.setProp SDb.setProp
  rewrite [spec_rows_length, h.names_length]
  refine map_ite_congr _ rfl (fun _ => rfl) fun hl => ?_
  have hl' : vals.length = db.fpNum := Decidable.not_not.1 hl
  refine congrArg (·, none) (SDb.eq_of rfl rfl rfl rfl (colSet_keys db.props key vals) ?_)
  show mkRows db.fpNum (db.array.getD []) db.fpNames (colSet db.props key vals) =
    (db.absRows.zip vals).map (fun p => { p.1 with props := kvSet p.1.props key p.2 })
  apply List.ext_getElem
  · simp only [mkRows_length, List.length_map, List.length_zip, absRows_length, hl', Nat.min_self]
  · intro i h1 h2
    have hi : i < db.fpNum := by rwa [mkRows_length] at h1
    have hv : i < vals.length := hl' ▸ hi
    simp only [mkRows, absRows_eq, List.getElem_map, List.getElem_range, List.getElem_zip, mkRow]
    rw [colsAt_colSet db.props key vals i vals[i] (fun c hc => by rewrite [h.col_length c hc]; exact hi)
      (List.getElem?_eq_getElem hv)]

theorem updateProps_refines (db : Db) (cols : Cols) (h : db.Inv) :
    (db.updateProps cols).map Db.spec id = db.spec.updateProps cols := by
  unfold Db.updateProps SDb.updateProps
  have e : db.badCols cols = cols.any (fun c => decide (c.2.length ≠ db.spec.rows.length)) := by
    unfold Db.badCols; rw [spec_rows_length, h.names_length]
  rewrite [← e]
  refine map_ite_congr _ rfl (fun _ => rfl) fun hb => congrArg (·, none) ?_
  have hall : ∀ c ∈ cols, c.2.length = db.fpNames.length := fun c hc =>
    Decidable.not_not.1 fun hne => List.any_eq_false.1 (Bool.eq_false_iff.2 hb) c hc (decide_eq_true hne)
  exact (List.foldl_rel (r := fun (acc : Db) acc' => acc.Inv ∧ acc.fpNames = db.fpNames ∧ acc.spec = acc')
    ⟨h, rfl, rfl⟩ fun c hc acc acc' ⟨hi, hn, hs⟩ => by
      have e : (acc.setProp c.1 c.2).1 = { acc with props := colSet acc.props c.1 c.2 } := by
        simp only [Db.setProp, hn, hall c hc, ne_eq, not_true_eq_false, if_false]
      rewrite [← e, ← hs]
      exact ⟨C05.setProp_inv acc c.1 c.2 hi, by rewrite [e]; exact hn,
        congrArg Prod.fst (setProp_refines acc c.1 c.2 hi)⟩).2.2

/-! ## `from_array` and the operations built on it -/

theorem castRow_eq (k : Kind) : (fun r : Row => r.map (fun p => (p.1, castVal k p.2))) = castRow k := rfl

theorem lastCol_getElem? (props : Cols) (key : String) (i : Nat) :
    (lastCol props key)[i]? = (props.reverse.find? (fun c => c.1 = key)).bind (fun c => c.2[i]?) := by
  unfold lastCol
  cases props.reverse.find? (fun c => c.1 = key) <;> rfl

theorem fromArray_refines (rows : List Row) (bits : Nat) (names : List (Option String)) (k : Kind) (level : Int)
    (name : Option String) (props : Cols) :
    (toEx (Db.fromArray rows bits names k level name props)).map Db.spec =
      SDb.fromArray rows bits names k level name props := by
  have hc : props.any (fun c => decide (c.2.length ≠ names.length)) = true ↔
      ¬ ∀ c ∈ props, c.2.length = names.length := by
    simp only [List.any_eq_true, decide_eq_true_eq, Classical.not_forall, exists_prop]
  unfold SDb.fromArray toEx
  by_cases h : ∀ c ∈ props, c.2.length = names.length
  · rewrite [if_neg (fun hh => hc.1 hh h), fromArray_ok rows bits names k level name props h]
    refine congrArg Except.ok (SDb.eq_of rfl rfl rfl rfl ?_ ?_)
    · show (props.foldl (fun a c => colSet a c.1 c.2) []).map Prod.fst = _
      rewrite [foldl_colSet_nil, List.map_map]; exact List.map_id' _
    · show mkRows (rows.map (fun r => r.map (fun p => (p.1, castVal k p.2)))).length _ names
        (props.foldl (fun a c => colSet a c.1 c.2) []) = _
      rewrite [List.length_map, foldl_colSet_nil]
      unfold mkRows
      apply List.map_congr_left
      intro i hi
      have hi' : i < rows.length := List.mem_range.1 hi
      simp only [mkRow, colsAt_map_keys, lastCol_getElem?]
      congr 1
      simp only [Option.getD_some, List.getElem?_map, List.getElem?_eq_getElem hi', Option.map_some, castRow]
  · rewrite [if_pos (hc.2 h), fromArray_snd, if_neg h]
    rfl

theorem spec_of_some (db : Db) (a : List Row) (ha : db.array = some a) :
    db.spec.bits = some db.bits ∧ db.absRows = mkRows a.length a db.fpNames db.props := by
  rewrite [absRows_eq, C05.fpNum_some ha]
  simp [Db.spec, ha]

/-- what `as_type`, `fold` and `load(savez(db))` have in common: `from_array` on the database's own names and
columns, with new cells `g r` for every row `r` -/
theorem fromArray_self_spec (db : Db) (h : db.Inv) (a : List Row) (ha : db.array = some a) (g : Row → Row) (k : Kind)
    (hg : castRow k (g []) = []) (bits : Nat) (level : Int) (name : Option String) :
    ∃ d, Db.fromArray (a.map g) bits db.fpNames k level name db.props = (d, none) ∧
      d.spec = { kind := k, level := level, name := name, bits := some bits, keys := db.spec.keys,
                 rows := db.spec.rows.map (fun r => { r with cells := castRow k (g r.cells) }) } := by
  rewrite [fromArray_ok _ bits db.fpNames k level name db.props h.cols_names,
         foldl_colSet_insert db.props h.keys_nodup]
  refine ⟨_, rfl, SDb.eq_of rfl rfl rfl rfl rfl ?_⟩
  show mkRows ((a.map g).map (castRow k)).length ((a.map g).map (castRow k)) db.fpNames db.props = db.absRows.map _
  rewrite [List.map_map, List.length_map, mkRows_mapCells (castRow k ∘ g) hg, (spec_of_some db a ha).2]
  rfl

theorem asType_refines (db : Db) (k : Kind) (h : db.Inv) : (db.asType k).map Db.spec = db.spec.asType k := by
  unfold Db.asType SDb.asType
  cases ha : db.array with
  | none => simp [Db.spec, ha, Except.map]
  | some a =>
    obtain ⟨d, h1, h2⟩ := fromArray_self_spec db h a ha id k rfl db.bits db.level db.name
    rewrite [List.map_id] at h1
    rewrite [(spec_of_some db a ha).1]
    simp only [h1, Except.map, h2]
    rfl

/-- `load(savez(db))` is `as_type` at the database's own kind, on both sides -/
theorem savezLoad_refines (db : Db) (h : db.Inv) : db.savezLoad.map Db.spec = db.spec.savezLoad :=
  asType_refines db db.fpType h

theorem fold_refines (db : Db) (bits : Nat) (k : Option Kind) (newName : Option String) (h : db.Inv) :
    (db.fold bits k newName).map Db.spec = db.spec.fold bits k newName := by
  unfold Db.fold SDb.fold
  cases ha : db.array with
  | none => simp [Db.spec, ha, Except.map]
  | some a =>
    obtain ⟨d, h1, h2⟩ := fromArray_self_spec db h a ha (foldCells db.fpType bits) (k.getD db.fpType) rfl bits db.level
      (newName <|> db.name)
    rewrite [(spec_of_some db a ha).1]
    refine map_ite_congr _ rfl (fun _ => rfl) fun _ => map_ite_congr _ rfl (fun _ => rfl) fun _ => ?_
    -- `h1` has `foldCells` where the model has its body
    dsimp only
    erw [h1]
    simp only [Except.map, h2]
    rfl

/-! ## reads -/

theorem fprintAt_spec (db : Db) (i : Nat) (hi : i < db.fpNum) :
    db.fprintAt i = db.spec.rowFp (mkRow (db.array.getD []) db.fpNames db.props i) := by
  unfold Db.fprintAt SDb.rowFp
  cases ha : db.array with
  | none => simp only [Db.fpNum, ha, Nat.not_lt_zero] at hi
  | some a =>
    have hia : i < a.length := by simpa only [Db.fpNum, ha] using hi
    simp only [List.getElem?_eq_getElem hia, mkRow, Db.spec, ha, Option.getD_some, Option.map_some, colsAt]
    cases fromSparse db.fpType a[i] db.bits db.level <;> rfl

theorem spec_named_eq (db : Db) (nm : String) (h : db.Inv) :
    db.spec.named nm = (positions db.fpNames (some nm)).map (mkRow (db.array.getD []) db.fpNames db.props) := by
  show db.absRows.filter _ = _
  rewrite [absRows_eq, mkRows, List.filter_map, positions, h.names_length]
  congr 1
  apply List.filter_congr
  intro i _
  simp only [Function.comp_def]
  apply decide_eq_decide.2
  show (db.fpNames[i]?).getD none = some nm ↔ db.fpNames[i]? = some (some nm)
  cases hx : db.fpNames[i]? <;> simp

/-! ## `get_subset` -/

/-- the (row, name) pairs `get_subset` gathers -/
def subsetPairs (db : Db) (names : List String) : List (Nat × String) :=
  names.flatMap (fun nm => (positions db.fpNames (some nm)).map (fun i => (i, nm)))

theorem spec_named_isEmpty (db : Db) (nm : String) (h : db.Inv) :
    (mapLookup db.namesMap (some nm)).isNone = (db.spec.named nm).isEmpty := by
  rewrite [spec_named_eq db nm h, h.canonical, mapLookup_canonical]
  by_cases hm : some nm ∈ db.fpNames
  · have : positions db.fpNames (some nm) ≠ [] := fun e => (positions_eq_nil_iff _ _).1 e hm
    simp [hm, this]
  · have : positions db.fpNames (some nm) = [] := (positions_eq_nil_iff _ _).2 hm
    simp [hm, this]

theorem subsetPairs_eq (db : Db) (names : List String) (h : db.Inv) :
    names.flatMap (fun nm => ((mapLookup db.namesMap (some nm)).getD []).map (fun i => (i, nm))) =
      subsetPairs db names := by
  unfold subsetPairs
  rewrite [h.canonical]
  simp only [mapLookup_canonical_getD]

theorem subsetPairs_mem (db : Db) (names : List String) (p : Nat × String) (hp : p ∈ subsetPairs db names) :
    db.fpNames[p.1]? = some (some p.2) := by
  unfold subsetPairs at hp
  simp only [List.mem_flatMap, List.mem_map] at hp
  obtain ⟨nm, _, i, hi, rfl⟩ := hp
  exact (mem_positions _ _ _).1 hi

theorem subsetPairs_isEmpty (db : Db) (names : List String)
    (hall : ∀ nm ∈ names, positions db.fpNames (some nm) ≠ []) :
    (subsetPairs db names).isEmpty = names.isEmpty := by
  cases names with
  | nil => rfl
  | cons nm rest =>
    have := hall nm List.mem_cons_self
    unfold subsetPairs
    cases hpn : positions db.fpNames (some nm) with
    | nil => exact absurd hpn this
    | cons i r => rewrite [List.flatMap_cons, hpn]; rfl

theorem spec_subset_rows (db : Db) (names : List String) (h : db.Inv) :
    names.flatMap (fun nm => (db.spec.named nm).map (fun r => { r with cells := castRow db.spec.kind r.cells })) =
      (subsetPairs db names).map (fun p =>
        let r := mkRow (db.array.getD []) db.fpNames db.props p.1
        { r with cells := castRow db.fpType r.cells }) := by
  unfold subsetPairs
  rewrite [List.map_flatMap]
  congr 1
  funext nm
  rewrite [spec_named_eq db nm h, List.map_map, List.map_map]
  rfl

theorem subset_refines (db : Db) (names : List String) (newName : Option String) (h : db.Inv) :
    (db.subset names newName).map Db.spec = db.spec.subset names newName := by
  unfold Db.subset SDb.subset
  -- under `Inv` the index lookups are `positions`, so both sides gather the same (row, name) pairs `subsetPairs`;
  -- every pair is in range, hence each column keeps one cell per pair and `from_array` accepts; then row by row
  have e1 : names.any (fun nm => (mapLookup db.namesMap (some nm)).isNone) =
      names.any (fun nm => (db.spec.named nm).isEmpty) := by
    congr 1; funext nm; exact spec_named_isEmpty db nm h
  rewrite [e1, subsetPairs_eq db names h]
  refine map_ite_congr _ rfl (fun _ => rfl) fun c1 => ?_
  have hall : ∀ nm ∈ names, positions db.fpNames (some nm) ≠ [] := fun nm hnm e =>
    c1 (List.any_eq_true.2 ⟨nm, hnm, by rewrite [spec_named_eq db nm h, e]; rfl⟩)
  have hemp := subsetPairs_isEmpty db names hall
  refine map_ite_congr _ (by rw [hemp]) (fun _ => rfl) fun c2 => ?_
  have hne : subsetPairs db names ≠ [] := fun e => c2 (by rewrite [← hemp, e]; rfl)
  have hnm := subsetPairs_mem db names
  have hlt : ∀ p ∈ subsetPairs db names, p.1 < db.fpNum := fun p hp =>
    h.names_length ▸ (List.getElem?_eq_some_iff.1 (hnm p hp)).1
  have hrows := spec_subset_rows db names h
  generalize subsetPairs db names = pairs at *
  have hpos : db.fpNum > 0 := by
    cases pairs with
    | nil => exact absurd rfl hne
    | cons p r => exact Nat.zero_lt_of_lt (hlt p List.mem_cons_self)
  have hcols : db.props.map (fun c => (c.1, pairs.filterMap (fun p => c.2[p.1]?))) =
      db.props.map (fun c => (c.1, pairs.map (fun p => (c.2[p.1]?).getD (.int 0)))) := by
    apply List.map_congr_left
    intro c hc
    congr 1
    apply filterMap_eq_map_of_some
    intro p hp
    have : p.1 < c.2.length := by rewrite [h.col_length c hc]; exact hlt p hp
    rw [List.getElem?_eq_getElem this, Option.getD_some]
  dsimp only
  rewrite [hcols, fromArray_ok, foldl_colSet_insert]
  · refine congrArg Except.ok (SDb.eq_of rfl rfl rfl ?_ ?_ ?_)
    · exact congrArg some (spec_bits_getD db hpos).symm
    · exact List.map_map.trans rfl
    · rewrite [hrows]
      show mkRows ((pairs.map (fun p => ((db.array.getD [])[p.1]?).getD [])).map (castRow db.fpType)).length
        ((pairs.map (fun p => ((db.array.getD [])[p.1]?).getD [])).map (castRow db.fpType))
        (pairs.map (fun p => some p.2))
        (db.props.map (fun c => (c.1, pairs.map (fun p => (c.2[p.1]?).getD (.int 0))))) = _
      rewrite [List.length_map, List.length_map]
      apply mkRows_eq_map
      intro j hj
      have hp := List.getElem_mem hj
      simp only [mkRow, List.getElem?_map, List.getElem?_eq_getElem hj, Option.map_some, Option.getD_some,
        hnm _ hp]
      congr 1
      unfold colsAt
      rewrite [List.filterMap_map]
      apply filterMap_congr_mem
      intro c hc
      have : pairs[j].1 < c.2.length := by rewrite [h.col_length c hc]; exact hlt _ hp
      simp only [Function.comp_apply, List.getElem?_map, List.getElem?_eq_getElem hj, Option.map_some,
        List.getElem?_eq_getElem this, Option.getD_some]
  · rewrite [List.map_map]; exact h.keys_nodup
  · intro c hc
    obtain ⟨c0, _, rfl⟩ := List.mem_map.1 hc
    rw [List.length_map, List.length_map]

/-! ## `concat` -/

theorem concatKeysS_eq (dbs : List Db) : concatKeysS (dbs.map Db.spec) = C16.concatKeys dbs := by
  simp only [concatKeysS, C16.concatKeys, List.foldl_map, Db.spec]

/-- every operand that has rows provides every key of `K` -/
def Full (K : List String) (dbs : List Db) : Prop :=
  ∀ d ∈ dbs, d.fpNum ≠ 0 → ∀ k ∈ K, k ∈ d.props.map Prod.fst

theorem concat_check_iff (dbs : List Db) (hi : ∀ d ∈ dbs, d.Inv) (K : List String) :
    K.any (fun k => decide ((C16.concatCol dbs k).length ≠ (C16.concatRows dbs).length)) = false ↔ Full K dbs := by
  simp only [List.any_eq_false, decide_eq_true_eq, ne_eq, Decidable.not_not, fun k => (C16.concat_lengths k dbs hi).2,
    Decidable.or_iff_not_imp_left]
  exact ⟨fun h d hd h0 k hk => h k hk d hd h0, fun h k hk d hd h0 => h d hd h0 k hk⟩

theorem spec_concat_check_iff (dbs : List Db) (K : List String) :
    (dbs.map Db.spec).any (fun d => !d.rows.isEmpty && K.any (fun k => !d.keys.contains k)) = false ↔ Full K dbs := by
  simp only [List.any_map, List.any_eq_false, Function.comp_apply, Bool.not_eq_true, Bool.and_eq_false_imp,
    Bool.not_eq_true', List.isEmpty_eq_false_iff, Bool.not_eq_false, List.contains_eq_mem, decide_eq_true_eq, ne_eq,
    ← List.length_eq_zero_iff, spec_rows_length]
  rfl

theorem mkRows_contrib (K : List String) (d : Db) (hi : d.Inv) :
    mkRows d.fpNum (d.array.getD []) d.fpNames (K.map (fun k => (k, (colLookup d.props k).getD []))) =
      d.absRows.map (rekey K) := by
  rewrite [absRows_eq]
  unfold mkRows
  rewrite [List.map_map]
  apply List.map_congr_left
  intro i hi'
  have hlt : i < d.fpNum := List.mem_range.1 hi'
  simp only [Function.comp_def, mkRow, rekey, colsAt_map_keys]
  congr 1
  apply filterMap_congr_mem
  intro k _
  rewrite [propLookup_colsAt d.props i k (fun c hc => by rewrite [hi.col_length c hc]; exact hlt)]
  cases colLookup d.props k <;> rfl

theorem concat_rows (K : List String) (dbs : List Db) (hi : ∀ d ∈ dbs, d.Inv) (hf : Full K dbs) :
    mkRows (C16.concatRows dbs).length (C16.concatRows dbs) (dbs.flatMap (·.fpNames))
        (K.map (fun k => (k, C16.concatCol dbs k))) =
      dbs.flatMap (fun d => d.absRows.map (rekey K)) := by
  -- one operand at a time: by `Full` its contribution to every column of `K` has one cell per row (`hlen`),
  -- so rows, names and columns split at the same place (`mkRows_append`)
  induction dbs with
  | nil => rfl
  | cons d rest ih =>
    have hd := hi d List.mem_cons_self
    have ih' := ih (fun d hd => hi d (List.mem_cons_of_mem _ hd)) (fun d hd => hf d (List.mem_cons_of_mem _ hd))
    have hlen : ∀ k ∈ K, ((colLookup d.props k).getD []).length = d.fpNum := by
      intro k hk
      rewrite [C16.col_contrib d hd k]
      by_cases h0 : d.fpNum = 0
      · rewrite [h0]; exact ite_self 0
      · exact if_pos (hf d List.mem_cons_self h0 k hk)
    simp only [C16.concatRows, C16.concatCol, List.flatMap_cons, List.length_append] at ih' ⊢
    rewrite [← fpNum_eq d, ← ih', ← mkRows_contrib K d hd]
    apply mkRows_append _ _ _ _ _ _ _ _ _ (fpNum_eq d).symm hd.names_length
    · intro i hlt
      rewrite [colsAt_map_keys, colsAt_map_keys]
      apply filterMap_congr_mem
      intro k hk
      rw [List.getElem?_append_left (by rewrite [hlen k hk]; exact hlt)]
    · intro j _
      rewrite [colsAt_map_keys, colsAt_map_keys]
      apply filterMap_congr_mem
      intro k hk
      rw [List.getElem?_append_right (by rewrite [hlen k hk]; exact Nat.le_add_right _ _), hlen k hk, Nat.add_sub_cancel_left]

theorem concat_refines (ds : List Db) (hi : ∀ d ∈ ds, d.Inv) :
    (Db.concat ds).map Db.spec = SDb.concat (ds.map Db.spec) := by
  cases ds with
  | nil => rfl
  | cons d0 rest =>
    rewrite [C16.concat_eq, List.map_cons, SDb.concat]
    rewrite [← List.map_cons]
    generalize hdbs : d0 :: rest = dbs at *
    have hd0 : d0 ∈ dbs := hdbs ▸ List.mem_cons_self
    simp only [concatKeysS_eq, List.any_map]
    -- both sides are the same chain of checks; only the last check is made differently
    refine map_ite_congr _ rfl (fun _ => rfl) fun _ => map_ite_congr _ rfl (fun _ => rfl) fun _ =>
      map_ite_congr _ rfl (fun _ => rfl) fun _ => map_ite_congr _ ?_ (fun _ => rfl) fun c4 =>
      map_ite_congr _ ?_ (fun _ => rfl) fun c5 => ?_
    · simp only [Function.comp_def, Db.spec, Option.isNone_map]
    · rw [← List.any_map, ← Bool.not_eq_false, ← Bool.not_eq_false, concat_check_iff dbs hi, spec_concat_check_iff]
    · have hfull : Full (C16.concatKeys dbs) dbs :=
        (spec_concat_check_iff dbs _).1 (by rewrite [List.any_map, ← Bool.not_eq_true]; exact c5)
      refine congrArg Except.ok (SDb.eq_of rfl rfl rfl ?_ ?_ ?_)
      · show some d0.bits = some (d0.spec.bits.getD 0)
        cases ha : d0.array with
        | none => exact absurd (List.any_eq_true.2 ⟨d0, hd0, by simp [Db.spec, ha]⟩) c4
        | some a => simp only [Db.spec, ha, Option.map_some, Option.getD_some]
      · exact List.map_map.trans (List.map_id' _)
      · exact (concat_rows _ dbs hi hfull).trans (by rewrite [List.flatMap_map]; rfl)

/-! ## the operations as actions -/

def DbOp.act : DbOp → Act Db
  | .new id k level name => .make id (.ok (Db.new k level name))
  | .add id fps => .from1 id id (fun d => toEx (d.add fps))
  | .fromArray id rows bits names k level name props => .make id (toEx (Db.fromArray rows bits names k level name props))
  | .subset id out names newName => .from1 id out (fun d => d.subset names newName)
  | .asType id out k => .from1 id out (fun d => d.asType k)
  | .fold id out bits k newName => .from1 id out (fun d => d.fold bits k newName)
  | .concat ids out => .fromN ids out Db.concat
  | .setProp id key vals => .from1 id id (fun d => toEx (d.setProp key vals))
  | .updateProps id cols => .from1 id id (fun d => toEx (d.updateProps cols))
  | .pickle id out => .from1 id out (fun d => .ok d.pickleRoundTrip)
  | .savezLoad id out => .from1 id out (fun d => d.savezLoad)

def DbOp.sact : DbOp → Act SDb
  | .new id k level name => .make id (.ok (SDb.new k level name))
  | .add id fps => .from1 id id (fun d => toEx (d.add fps))
  | .fromArray id rows bits names k level name props => .make id (SDb.fromArray rows bits names k level name props)
  | .subset id out names newName => .from1 id out (fun d => d.subset names newName)
  | .asType id out k => .from1 id out (fun d => d.asType k)
  | .fold id out bits k newName => .from1 id out (fun d => d.fold bits k newName)
  | .concat ids out => .fromN ids out SDb.concat
  | .setProp id key vals => .from1 id id (fun d => toEx (d.setProp key vals))
  | .updateProps id cols => .from1 id id (fun d => toEx (d.updateProps cols))
  | .pickle id out => .from1 id out (fun d => .ok d)
  | .savezLoad id out => .from1 id out (fun d => d.savezLoad)

/-- an update in place that hands back its operand when it refuses is `putRes` of its result -/
theorem inplace_eq_from1 {α : Type} (p : PoolOf α) (id : String) (f : α → α × Ans)
    (hf : ∀ d, (f d).2.isSome → (f d).1 = d) :
    (p.get? id).map (fun d => (p.put id (f d).1, (f d).2)) = (Act.from1 id id (fun d => toEx (f d))).step p := by
  show _ = (p.get? id).map (fun d => putRes p id (toEx (f d)))
  cases hg : p.get? id with
  | none => rfl
  | some d =>
    simp only [Option.map_some, toEx]
    cases hr : (f d).2 with
    | none => rfl
    | some e => simp only [putRes, hf d (by rewrite [hr]; rfl), PoolOf.put_get_self p id d hg]

theorem stepOp_eq_act (p : Pool) (op : DbOp) : stepOp p op = op.act.step p := by
  cases op with
  | add id fps => exact inplace_eq_from1 p id _ (C16.add_atomic · fps)
  | setProp id key vals => exact inplace_eq_from1 p id _ (C16.setProp_atomic · key vals)
  | updateProps id cols => exact inplace_eq_from1 p id _ (C16.updateProps_atomic · cols)
  | fromArray id rows bits names k level name props =>
    show some _ = some (putRes p id (toEx _))
    unfold toEx
    cases (Db.fromArray rows bits names k level name props).2 <;> rfl
  | _ => rfl

theorem specStep_eq_act (p : SPool) (op : DbOp) : specStep p op = op.sact.step p := by
  cases op with
  | add id fps => exact inplace_eq_from1 p id _ (SDb.add_atomic · fps)
  | setProp id key vals => exact inplace_eq_from1 p id _ (SDb.setProp_atomic · key vals)
  | updateProps id cols => exact inplace_eq_from1 p id _ (SDb.updateProps_atomic · cols)
  | _ => rfl

theorem act_sim (op : DbOp) : Act.Sim Db.spec Db.Inv op.act op.sact := by
  cases op with
  | new id k level name => exact .make id _
  | add id fps => exact .from1 id id _ _ (fun d hd => by rw [toEx_map, add_refines d fps hd])
  | fromArray id rows bits names k level name props =>
    show Act.Sim _ _ (.make id _) (.make id _)
    rewrite [← fromArray_refines]
    exact .make id _
  | subset id out names newName => exact .from1 id out _ _ (fun d hd => subset_refines d names newName hd)
  | asType id out k => exact .from1 id out _ _ (fun d hd => asType_refines d k hd)
  | fold id out bits k newName => exact .from1 id out _ _ (fun d hd => fold_refines d bits k newName hd)
  | concat ids out => exact .fromN ids out _ _ (fun ds hd => concat_refines ds hd)
  | setProp id key vals => exact .from1 id id _ _ (fun d hd => by rw [toEx_map, setProp_refines d key vals hd])
  | updateProps id cols => exact .from1 id id _ _ (fun d hd => by rw [toEx_map, updateProps_refines d cols hd])
  | pickle id out => exact .from1 id out _ _ (fun d hd => by rewrite [C08.pickle_rt d hd.canonical]; rfl)
  | savezLoad id out => exact .from1 id out _ _ (fun d hd => savezLoad_refines d hd)

end E3fpVerif
