import E3fpVerif.Model.Fprinter
import E3fpVerif.Lemmas.SortBy
/-!
# The orders the fingerprinter sorts by are strict orders, total on their keys

`ltIntList`, Python's tuple comparison, is the lexicographic `<` of lists (`ltIntList_iff`): irreflexive,
transitive, trichotomous - what `sortByLt_sorted` and `sortByLt_eq_of_perm` ask of the comparison.  `lt3`,
`lt4` (neighbour tuples) and `ltShell` (shells by `(identifier, centre)`) are `ltIntList` on the tuple written
as a list (`lt3_eq`, `lt4_eq`, `ltShell_eq`) and inherit them: `lt3` all three, `lt4` the first two (nothing asks
for more), `ltShell` trichotomy up to its key only (`ltShell_trich_key`: distinct shells may share it).
-/
namespace E3fpVerif

/-- `ltIntList` is the lexicographic order of lists -/
theorem ltIntList_iff : ∀ a b : List Int, ltIntList a b = true ↔ a < b
  | [], [] => iff_of_false Bool.false_ne_true (List.lt_irrefl _)
  | [], _ :: _ => iff_of_true rfl (List.nil_lt_cons _ _)
  | _ :: _, [] => iff_of_false Bool.false_ne_true (List.not_lt_nil _)
  | x :: xs, y :: ys => by
    simp only [ltIntList, Bool.or_eq_true, Bool.and_eq_true, decide_eq_true_eq, beq_iff_eq,
      List.cons_lt_cons_iff, ltIntList_iff xs ys]

theorem ltIntList_irrefl (a : List Int) : ltIntList a a = false :=
  Bool.eq_false_iff.2 fun h => List.lt_irrefl a ((ltIntList_iff a a).1 h)

theorem ltIntList_trans (a b c : List Int) (h1 : ltIntList a b = true) (h2 : ltIntList b c = true) :
    ltIntList a c = true :=
  (ltIntList_iff a c).2 (List.lt_trans ((ltIntList_iff a b).1 h1) ((ltIntList_iff b c).1 h2))

theorem ltIntList_trich (a b : List Int) : ltIntList a b = true ∨ a = b ∨ ltIntList b a = true := by
  rewrite [ltIntList_iff, ltIntList_iff]
  by_cases h1 : a < b
  · exact Or.inl h1
  · by_cases h2 : b < a
    · exact Or.inr (Or.inr h2)
    · exact Or.inr (Or.inl (List.le_antisymm h2 h1))

theorem lt3_eq (a b : Nat × Int × Nat) : lt3 a b = ltIntList [a.1, a.2.1, a.2.2] [b.1, b.2.1, b.2.2] := by
  simp only [lt3, ltIntList, Int.ofNat_lt, Bool.and_false, Bool.or_false, Bool.beq_eq_decide_eq, Int.natCast_inj]

theorem lt3_irrefl (a : Nat × Int × Nat) : lt3 a a = false := by
  rewrite [lt3_eq]; exact ltIntList_irrefl _

theorem lt3_trans (a b c : Nat × Int × Nat) (h1 : lt3 a b = true) (h2 : lt3 b c = true) : lt3 a c = true := by
  rewrite [lt3_eq] at *
  exact ltIntList_trans _ _ _ h1 h2

theorem lt3_trich (a b : Nat × Int × Nat) : lt3 a b = true ∨ a = b ∨ lt3 b a = true := by
  rewrite [lt3_eq, lt3_eq]
  refine (ltIntList_trich _ _).imp_right (Or.imp_left fun e => ?_)
  simp only [List.cons.injEq, Int.natCast_inj, and_true] at e
  exact Prod.ext e.1 (Prod.ext e.2.1 e.2.2)

theorem lt4_eq (a b : Nat × Nat × Int × Nat) :
    lt4 a b = ltIntList [a.1, a.2.1, a.2.2.1, a.2.2.2] [b.1, b.2.1, b.2.2.1, b.2.2.2] := by
  simp only [lt4, ltIntList, Int.ofNat_lt, Bool.and_false, Bool.or_false, Bool.beq_eq_decide_eq, Int.natCast_inj]

theorem lt4_irrefl (a : Nat × Nat × Int × Nat) : lt4 a a = false := by
  rewrite [lt4_eq]; exact ltIntList_irrefl _

theorem lt4_trans (a b c : Nat × Nat × Int × Nat) (h1 : lt4 a b = true) (h2 : lt4 b c = true) : lt4 a c = true := by
  rewrite [lt4_eq] at *
  exact ltIntList_trans _ _ _ h1 h2

theorem ltShell_eq (a b : GShell) : ltShell a b = ltIntList [a.ident, a.atom] [b.ident, b.atom] := by
  simp only [ltShell, ltIntList, Int.ofNat_lt, Bool.and_false, Bool.or_false]

theorem ltShell_irrefl (a : GShell) : ltShell a a = false := by
  rewrite [ltShell_eq]; exact ltIntList_irrefl _

theorem ltShell_trans (a b c : GShell) (h1 : ltShell a b = true) (h2 : ltShell b c = true) : ltShell a c = true := by
  rewrite [ltShell_eq] at *
  exact ltIntList_trans _ _ _ h1 h2

/-- `ltShell` compares `(ident, atom)`: it is trichotomous up to that key -/
theorem ltShell_trich_key (a b : GShell) :
    ltShell a b = true ∨ (a.ident = b.ident ∧ a.atom = b.atom) ∨ ltShell b a = true := by
  rewrite [ltShell_eq, ltShell_eq]
  refine (ltIntList_trich _ _).imp_right (Or.imp_left fun e => ?_)
  simpa only [List.cons.injEq, Int.natCast_inj, and_true] using e

theorem ltShell_iff (a b : GShell) :
    ltShell a b = true ↔ a.ident < b.ident ∨ (a.ident = b.ident ∧ a.atom < b.atom) := by
  unfold ltShell; simp

/-- the candidates are ordered by (identifier, centre) -/
theorem sortByLt_ltShell_sorted (l : List GShell) :
    (sortByLt ltShell l).Pairwise
      (fun a b => a.ident < b.ident ∨ (a.ident = b.ident ∧ a.atom ≤ b.atom)) := by
  refine (sortByLt_sorted ltShell ltShell_irrefl ltShell_trans l).imp ?_
  intro a b hab
  rcases ltShell_trich_key a b with h | h | h
  · exact ((ltShell_iff a b).1 h).imp_right (And.imp_right Nat.le_of_lt)
  · exact Or.inr ⟨h.1, Nat.le_of_eq h.2⟩
  · exact absurd (hab ▸ h) Bool.false_ne_true

theorem sortByLt_ltShell_ident_sorted (l : List GShell) :
    (sortByLt ltShell l).Pairwise (fun a b => a.ident ≤ b.ident) :=
  (sortByLt_ltShell_sorted l).imp (fun h => h.elim Int.le_of_lt (fun h => Int.le_of_eq h.1))

end E3fpVerif
