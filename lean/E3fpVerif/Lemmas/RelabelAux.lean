import E3fpVerif.Lemmas.Fprinter
/-!
# `Rl.`: base-layer facts under the namespace of the relabelling development

`Rl.unionShells_*`, `Rl.shellOf_mem_or_default`, `Rl.dedupSpec_congr/_append` state the `E3fpVerif.` lemmas of the
same name; `Rl.getLastD_mem_or_nil` reads core's `List.getLastD_mem_cons` at `[]`.  `Rl.dedupSpec` is the same function
as `dedupSpec` (`Rl.dedupSpec_eq`), as `Rl.nbOf` (`GenLevel.lean`) is `nbOf`; fact (D), `union_eq_append` and
`accept_relabel` are stated with it, and with `Rl.stepAcc`, `Rl.stepPast`: the two components of `stepAccG`, the
duplicate filter in recursive form (`Rl.stepAccG_eq`).  Inside `namespace E3fpVerif` with `open Rl`, the bare names
`dedupSpec` and `nbOf` mean the base layer's.
-/
namespace E3fpVerif.Rl
open E3fpVerif

theorem unionShells_nil (old : List GShell) : unionShells old [] = old := rfl

theorem unionShells_prefix (old new : List GShell) : old <+: unionShells old new :=
  E3fpVerif.unionShells_prefix old new

theorem unionShells_mem_of_mem_old (old new : List GShell) : ∀ s ∈ old, s ∈ unionShells old new :=
  E3fpVerif.unionShells_mem_of_mem_old old new

theorem unionShells_length_ge (old new : List GShell) : old.length ≤ (unionShells old new).length :=
  E3fpVerif.unionShells_length_ge old new

theorem shellOf_mem_or_default (l : List GShell) (a : Nat) : shellOf l a ∈ l ∨ shellOf l a = default :=
  E3fpVerif.shellOf_mem_or_default l a

theorem getLastD_mem_or_nil {α} (L : List (List α)) : L.getLastD [] ∈ L ∨ L.getLastD [] = [] :=
  (List.mem_cons.1 List.getLastD_mem_cons).symm

/-- explicit recursive characterisation of the accepted shells of `dedupShells` -/
def dedupSpec (past : List (List Nat)) : List GShell → List GShell
  | [] => []
  | s :: rest =>
    if past.contains s.sub then dedupSpec past rest else s :: dedupSpec (past ++ [s.sub]) rest

theorem dedupSpec_eq : @dedupSpec = @E3fpVerif.dedupSpec := by
  funext past l
  induction l generalizing past with
  | nil => rfl
  | cons s rest ih => simp only [dedupSpec, E3fpVerif.dedupSpec, ih]

/-- `dedupSpec` only looks at which substructures are in `past` -/
theorem dedupSpec_congr (p₁ p₂ : List (List Nat)) (cands : List GShell) (h : ∀ x, x ∈ p₁ ↔ x ∈ p₂) :
    dedupSpec p₁ cands = dedupSpec p₂ cands := by
  rewrite [dedupSpec_eq]
  exact E3fpVerif.dedupSpec_congr p₁ p₂ cands h

theorem dedupSpec_append (past : List (List Nat)) (pre post : List GShell) :
    dedupSpec past (pre ++ post)
      = dedupSpec past pre ++ dedupSpec (past ++ (dedupSpec past pre).map (·.sub)) post := by
  rewrite [dedupSpec_eq]
  exact E3fpVerif.dedupSpec_append past pre post

/-- the shells accepted at the next level -/
def stepAcc (o : Opts) (past : List (List Nat)) (sorted : List GShell) : List GShell :=
  if o.removeDup then dedupSpec past sorted else sorted

/-- the substructures seen after the next level -/
def stepPast (o : Opts) (past : List (List Nat)) (sorted : List GShell) : List (List Nat) :=
  if o.removeDup then past ++ (dedupSpec past sorted).map (·.sub) else past

theorem stepAccG_eq (gl : LevelGen) (o : Opts) (s : FState) :
    stepAccG gl o s = (stepPast o s.past (sortByLt ltShell (gl (s.gen.getLastD []) (s.currentLevel + 1) s.tbl).2),
      stepAcc o s.past (sortByLt ltShell (gl (s.gen.getLastD []) (s.currentLevel + 1) s.tbl).2)) := by
  rewrite [stepAccG, stepAcc, stepPast, dedupSpec_eq]
  cases o.removeDup
  · rfl
  · simp only [if_true, dedupShells_eq]

end E3fpVerif.Rl
