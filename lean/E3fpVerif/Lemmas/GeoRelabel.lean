import E3fpVerif.Lemmas.Orders
/-!
# What is asked of the geometry of a renumbered conformer

`Geo.Relabels π g g'`: the shell-membership decisions are carried along by `π`, and hypothesis (S),
`StereoSym`, on the stereo codes (over `relTuple`, `stereoTriples`).  `Lemmas/Relabel.lean` uses (S);
`Lemmas/StereoSym.lean` proves it for geometries that come from coordinates, in the form `StereoSym2`
(lists sorted by `lt2`, the `(code, identifier)` part of `lt3`), which implies it (`StereoSym2.toSym`).
-/
namespace E3fpVerif

/-- a neighbour tuple `(bond code, identifier, atom)` with the atom renumbered -/
def relTuple (π : Nat → Nat) (t : Nat × Int × Nat) : Nat × Int × Nat := (t.1, t.2.1, π t.2.2)

/-- the `(bond code, identifier, stereo code)` triples `atomTuples` hashes for centre `c` -/
def stereoTriples (g : Geo) (c : Nat) (l : List (Nat × Int × Nat)) : List (Nat × Int × Int) :=
  (l.zip (g.stereo c l)).map (fun p => (p.1.1, p.1.2.1, p.2))

/-- **(S)**: the multiset of `(bond code, identifier, stereo code)` triples does not depend on how ties
between neighbours with equal `(code, identifier)` are ordered, and is equivariant under relabelling:
for tuple lists `l` (atoms `a`) and `l'` (atoms `π a`) that are permutations of each other up to
relabelling and both sorted (by `lt3`, in particular by `(code, identifier)`), the triples agree up to
order. -/
def StereoSym (π : Nat → Nat) (g g' : Geo) : Prop :=
  ∀ c l l', l'.Perm (l.map (relTuple π)) → SortedBy lt3 l → SortedBy lt3 l' →
    (stereoTriples g' (π c) l').Perm (stereoTriples g c l)

/-- the order on `(bond code, identifier)` alone -/
def lt2 (a b : Nat × Int × Nat) : Bool := a.1 < b.1 || (a.1 == b.1 && a.2.1 < b.2.1)

/-- (S) stated for lists sorted by `(code, identifier)` only, ties in any order -/
def StereoSym2 (π : Nat → Nat) (g g' : Geo) : Prop :=
  ∀ c l l', l'.Perm (l.map (relTuple π)) → SortedBy lt2 l → SortedBy lt2 l' →
    (stereoTriples g' (π c) l').Perm (stereoTriples g c l)

theorem sortedBy_lt2_of_lt3 (l : List (Nat × Int × Nat)) (h : SortedBy lt3 l) : SortedBy lt2 l := by
  refine List.Pairwise.imp (fun {a b} hab => ?_) h
  -- `lt2 b a` implies `lt3 b a`
  rewrite [Bool.eq_false_iff] at hab ⊢
  intro h2
  apply hab
  simp only [lt2, lt3, Bool.or_eq_true, Bool.and_eq_true, decide_eq_true_eq, beq_iff_eq] at h2 ⊢
  exact h2.imp_right (fun h => ⟨h.1, Or.inl h.2⟩)

/-- the `(code, identifier)` form of the hypothesis implies the one `Lemmas/Relabel.lean` uses -/
theorem StereoSym2.toSym {π : Nat → Nat} {g g' : Geo} (h : StereoSym2 π g g') : StereoSym π g g' :=
  fun c l l' hp h1 h2 => h c l l' hp (sortedBy_lt2_of_lt3 l h1) (sortedBy_lt2_of_lt3 l' h2)

/-- the geometry `g'` is `g` carried along the renumbering `π` -/
structure Geo.Relabels (π : Nat → Nat) (g g' : Geo) : Prop where
  within : ∀ k a b, g'.within k (π a) (π b) = g.within k a b
  stereo : StereoSym π g g'

end E3fpVerif
