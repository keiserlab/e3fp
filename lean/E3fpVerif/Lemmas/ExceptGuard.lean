/-!
# Guard chains

The operations that validate before they build are chains `if c₁ then .error e₁ else if c₂ then .error e₂ else … x`
(`concat`, `fold`, `get_subset`) or, for the updates in place, which answer `(database, error?)`,
`if c₁ then (s, some e₁) else …` (`add`, `set_prop`, `update_props`).  `ite_error_eq_ok`, `of_ite_error_eq_error` and
`ite_refuse_*` read such a chain one guard at a time, so that no proof has to split it; `map_ite_congr` compares one
guard of the model with one of the specification.  `exists_error_iff`, `bind_eq_ok`: two facts about `Except` itself.
-/
namespace E3fpVerif

theorem ite_error_eq_ok {ε α : Type} {c : Prop} [Decidable c] {e : ε} {x : Except ε α} {d : α} :
    (if c then Except.error e else x) = .ok d ↔ ¬ c ∧ x = .ok d := by
  by_cases h : c <;> simp [h]

theorem of_ite_error_eq_error {ε α : Type} {c : Prop} [Decidable c] {e e' : ε} {x : Except ε α}
    (h : (if c then Except.error e else x) = .error e') : e = e' ∨ x = .error e' := by
  by_cases hc : c
  · rewrite [if_pos hc] at h; exact Or.inl (Except.error.inj h)
  · rewrite [if_neg hc] at h; exact Or.inr h

section
variable {σ ε : Type} {c : Prop} [Decidable c] {s t : σ} {e : ε} {x : σ × Option ε}

theorem ite_refuse_eq_ok : (if c then (s, some e) else x) = (t, none) ↔ ¬ c ∧ x = (t, none) := by
  by_cases h : c <;> simp [h]

theorem ite_refuse_isSome : (if c then (s, some e) else x).2.isSome ↔ c ∨ x.2.isSome := by
  by_cases h : c <;> simp [h]

/-- a refusal anywhere in the chain hands back `s` -/
theorem ite_refuse_atomic (hx : x.2.isSome → x.1 = s) (h : (if c then (s, some e) else x).2.isSome) :
    (if c then (s, some e) else x).1 = s := by
  by_cases hc : c
  · rw [if_pos hc]
  · rewrite [if_neg hc] at h ⊢; exact hx h
end

/-- one check of a chain on both sides: `f` of the model's `if` against the specification's `if` -/
theorem map_ite_congr {α β : Type} (f : α → β) {c c' : Prop} [Decidable c] [Decidable c'] {a b : α} {a' b' : β}
    (hc : c = c') (ha : c' → f a = a') (hb : ¬ c' → f b = b') : f (if c then a else b) = if c' then a' else b' :=
  (apply_ite f c a b).trans (ite_congr hc ha hb)

theorem exists_error_iff {ε α : Type} (x : Except ε α) : (∃ e, x = .error e) ↔ ∀ d, x ≠ .ok d := by
  cases x <;> simp

theorem bind_eq_ok {ε α β : Type} (x : Except ε α) (k : α → Except ε β) (b : β) :
    (x >>= k) = .ok b ↔ ∃ a, x = .ok a ∧ k a = .ok b := by
  cases x with
  | error e => exact ⟨fun h => (nomatch h), fun h => h.elim fun _ h => (nomatch h.1)⟩
  | ok a => exact ⟨fun h => ⟨a, rfl, h⟩, fun h => h.elim fun _ h => Except.ok.inj h.1 ▸ h.2⟩

end E3fpVerif
