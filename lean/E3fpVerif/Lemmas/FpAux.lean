import E3fpVerif.Model.Fprint
import E3fpVerif.Lemmas.Uniq
import E3fpVerif.Lemmas.ExceptGuard
/-!
# Lemmas on `coerce`, `Fp.count`, and the fingerprint constructors in closed form

`Fp.tab` names the shape in which every constructor and operator builds a count or float
fingerprint (a support and a value function); `count` and `WF` of a result are read off it.
The closed forms of `mkCount` and `fromFingerprint` spell the fingerprint out field by field;
it is `Fp.tab k bits level u v` by `rfl`, which is how the `Fp.tab_*` lemmas are applied to them.
-/
namespace E3fpVerif

/-! ## `truncQ`, `coerce` -/

theorem truncQ_intCast (z : Int) : truncQ (z : Rat) = (z : Rat) := by
  unfold truncQ
  split
  · rw [Rat.floor_intCast]
  · rewrite [← Rat.intCast_neg, Rat.floor_intCast]; simp

theorem truncQ_isInt (q : Rat) : ∃ z : Int, truncQ q = (z : Rat) := by
  unfold truncQ
  split
  · exact ⟨_, rfl⟩
  · exact ⟨_, rfl⟩

theorem truncQ_idem (q : Rat) : truncQ (truncQ q) = truncQ q := by
  obtain ⟨z, hz⟩ := truncQ_isInt q
  rw [hz, truncQ_intCast]

theorem truncQ_fixed_iff (q : Rat) : truncQ q = q ↔ ∃ n : Int, q = n :=
  ⟨fun h => (truncQ_isInt q).imp fun _ hz => h.symm.trans hz, fun ⟨n, e⟩ => e ▸ truncQ_intCast n⟩

theorem coerce_idem (k : Kind) (q : Rat) : coerce k (coerce k q) = coerce k q := by
  cases k <;> simp [coerce, truncQ_idem]

theorem coerce_intCast (k : Kind) (z : Int) : coerce k (z : Rat) = (z : Rat) := by
  cases k <;> simp [coerce, truncQ_intCast]

theorem coerce_natCast (k : Kind) (n : Nat) : coerce k (n : Rat) = (n : Rat) := by
  have := coerce_intCast k (n : Int)
  rwa [Rat.intCast_natCast] at this

theorem coerce_zero (k : Kind) : coerce k 0 = 0 := by
  simpa using coerce_natCast k 0

theorem coerce_one (k : Kind) : coerce k 1 = 1 := by
  simpa using coerce_natCast k 1

theorem coerce_float (q : Rat) : coerce .float q = q := rfl

theorem coerce_sumQ (k : Kind) (l : List Rat) (hl : ∀ q ∈ l, coerce k q = q) : coerce k (sumQ l) = sumQ l := by
  cases k with
  | count => exact (truncQ_fixed_iff _).2 (sumQ_isInt l fun q hq => (truncQ_fixed_iff q).1 (hl q hq))
  | bit => rfl
  | float => rfl

/-! ## `Fp.count` -/

theorem Fp.count_of_ne_bit (f : Fp) (hk : f.kind ≠ .bit) (i : Nat) : f.count i = lookupQ f.cnt i := by
  unfold Fp.count
  split
  · rename_i e; exact absurd e hk
  · rfl

theorem Fp.count_of_bit (f : Fp) (hk : f.kind = .bit) (i : Nat) : f.count i = if i ∈ f.idx then 1 else 0 := by
  unfold Fp.count
  rw [hk]

theorem Fp.count_of_not_mem (f : Fp) (hwf : f.WF) (i : Nat) (h : i ∉ f.idx) : f.count i = 0 := by
  by_cases hk : f.kind = .bit
  · rw [Fp.count_of_bit f hk, if_neg h]
  · rewrite [Fp.count_of_ne_bit f hk]
    exact lookupQ_of_not_key _ _ (by rewrite [hwf.2.2.2 hk]; exact h)

theorem Fp.count_isInt (f : Fp) (h : ∀ p ∈ f.cnt, truncQ p.2 = p.2) (j : Nat) : ∃ z : Int, f.count j = (z : Rat) := by
  unfold Fp.count
  split
  · split
    · exact ⟨1, rfl⟩
    · exact ⟨0, rfl⟩
  · rcases lookupQ_mem_or_zero f.cnt j with e | ⟨p, hp, e⟩
    · exact ⟨0, e⟩
    · exact e ▸ (truncQ_fixed_iff _).1 (h p hp)

/-! ## `Fp.tab` -/

/-- the count / float fingerprint with support `u` whose count at `i ∈ u` is `v i`: the form in which
every constructor and operator of the model builds its result -/
def Fp.tab (k : Kind) (bits : Nat) (level : Int) (u : List Nat) (v : Nat → Rat) : Fp :=
  ⟨k, bits, level, u, u.map (fun i => (i, v i))⟩

@[simp] theorem Fp.tab_idx (k : Kind) (bits : Nat) (level : Int) (u : List Nat) (v : Nat → Rat) :
    (Fp.tab k bits level u v).idx = u := rfl

theorem Fp.tab_count (k : Kind) (bits : Nat) (level : Int) (u : List Nat) (v : Nat → Rat) (hk : k ≠ .bit)
    (i : Nat) : (Fp.tab k bits level u v).count i = if i ∈ u then v i else 0 :=
  (Fp.count_of_ne_bit _ hk i).trans (lookupQ_graph u v i)

theorem Fp.tab_count_of_zero (k : Kind) (bits : Nat) (level : Int) (u : List Nat) (v : Nat → Rat)
    (hk : k ≠ .bit) (i : Nat) (h0 : i ∉ u → v i = 0) : (Fp.tab k bits level u v).count i = v i := by
  rewrite [Fp.tab_count k bits level u v hk]
  split
  · rfl
  · rename_i hi; exact (h0 hi).symm

theorem Fp.tab_wf (k : Kind) (bits : Nat) (level : Int) (u : List Nat) (v : Nat → Rat) (hk : k ≠ .bit)
    (hs : StrictAsc u) (hlt : ∀ i ∈ u, i < bits) : (Fp.tab k bits level u v).WF :=
  ⟨hs, hlt, fun e => absurd e hk, fun _ => map_fst_graph u v⟩

theorem Fp.tab_congr (k : Kind) (bits : Nat) (level : Int) {u u' : List Nat} {v v' : Nat → Rat}
    (hu : u = u') (hv : ∀ i ∈ u, v i = v' i) : Fp.tab k bits level u v = Fp.tab k bits level u' v' := by
  subst hu
  unfold Fp.tab
  rw [List.map_congr_left (fun i hi => by rw [hv i hi])]

/-! ## `mkBit`, `mkCount`, `fromIndices` -/

theorem mkBit_eq (ix : List Nat) (bits : Nat) (level : Int) (hlt : ∀ i ∈ ix, i < bits) :
    mkBit ix bits level = .ok ⟨.bit, bits, level, uniq ix, []⟩ := by
  unfold mkBit
  rewrite [any_ge_false _ _ hlt]; rfl

theorem mkBit_error (ix : List Nat) (bits : Nat) (level : Int) (i : Nat) (hi : i ∈ ix) (hge : bits ≤ i) :
    mkBit ix bits level = .error .bitsValue := by
  unfold mkBit
  have : ix.any (fun i => decide (i ≥ bits)) = true := by
    rewrite [List.any_eq_true]; exact ⟨i, hi, decide_eq_true hge⟩
  rewrite [this]; rfl

theorem mkBit_self (f : Fp) (hk : f.kind = .bit) (hwf : f.WF) : mkBit f.idx f.bits f.level = .ok f := by
  rw [mkBit_eq _ _ _ hwf.2.1, uniq_of_strictAsc _ hwf.1, ← hk, ← hwf.2.2.1 hk]

theorem mkBit_fields (ix : List Nat) (b : Nat) (l : Int) (F : Fp) (h : mkBit ix b l = .ok F) :
    F.kind = .bit ∧ F.bits = b ∧ F.level = l ∧ F.cnt = [] := by
  obtain ⟨_, h⟩ := ite_error_eq_ok.1 h
  cases h
  exact ⟨rfl, rfl, rfl, rfl⟩

theorem mkCount_some_none_eq (k : Kind) (ix : List Nat) (bits : Nat) (level : Int) (hlt : ∀ i ∈ ix, i < bits) :
    mkCount k (some ix) none bits level =
      .ok ⟨k, bits, level, uniq ix, (uniq ix).map (fun i => (i, coerce k (ix.count i : Nat)))⟩ := by
  unfold mkCount
  simp only
  rewrite [any_ge_false _ _ hlt]; rfl

theorem mkCount_some_some_eq (k : Kind) (ix : List Nat) (c : List (Nat × Rat)) (bits : Nat) (level : Int)
    (hlt : ∀ i ∈ ix, i < bits) (hkeys : ∀ x, x ∈ c.map Prod.fst ↔ x ∈ ix) :
    mkCount k (some ix) (some c) bits level =
      .ok ⟨k, bits, level, uniq ix, (uniq ix).map (fun i => (i, coerce k (lookupQ c i)))⟩ := by
  unfold mkCount
  simp only
  rewrite [any_ge_false _ _ hlt]
  have h1 : c.all (fun p => decide (p.1 ∈ uniq ix)) = true := by
    rewrite [List.all_eq_true]; intro p hp
    simp only [decide_eq_true_eq, mem_uniq]
    exact (hkeys p.1).1 (List.mem_map_of_mem hp)
  have h2 : (uniq ix).all (fun i => hasKey c i) = true := by
    rewrite [List.all_eq_true]; intro i hi
    rewrite [hasKey_iff, hkeys]; exact (mem_uniq i ix).1 hi
  rewrite [h1, h2]; rfl

theorem mkCount_none_some_eq (k : Kind) (c : List (Nat × Rat)) (bits : Nat) (level : Int)
    (hlt : ∀ i ∈ c.map Prod.fst, i < bits) :
    mkCount k none (some c) bits level =
      .ok ⟨k, bits, level, uniq (c.map Prod.fst),
        (uniq (c.map Prod.fst)).map (fun i => (i, coerce k (lookupQ c i)))⟩ := by
  unfold mkCount
  simp only
  rewrite [any_ge_false _ _ (by intro i hi; exact hlt i ((mem_uniq _ _).1 hi))]; rfl

/-- whatever it is given, the count / float constructor answers with a tabulated fingerprint of setter values -/
theorem mkCount_tab (k : Kind) (ix : Option (List Nat)) (c : Option (List (Nat × Rat))) (b : Nat) (l : Int)
    (F : Fp) (h : mkCount k ix c b l = .ok F) :
    ∃ (u : List Nat) (v : Nat → Rat), F = Fp.tab k b l u (fun i => coerce k (v i)) := by
  cases ix with
  | none =>
    cases c with
    | none => cases h
    | some c => obtain ⟨_, h⟩ := ite_error_eq_ok.1 h; cases h; exact ⟨_, _, rfl⟩
  | some ix =>
    cases c with
    | none => obtain ⟨_, h⟩ := ite_error_eq_ok.1 h; cases h; exact ⟨_, _, rfl⟩
    | some c =>
      obtain ⟨_, h⟩ := ite_error_eq_ok.1 h
      obtain ⟨_, h⟩ := ite_error_eq_ok.1 h
      obtain ⟨_, h⟩ := ite_error_eq_ok.1 h
      cases h; exact ⟨_, _, rfl⟩

theorem mkCount_fields (k : Kind) (ix : Option (List Nat)) (c : Option (List (Nat × Rat))) (b : Nat) (l : Int)
    (F : Fp) (h : mkCount k ix c b l = .ok F) : F.kind = k ∧ F.bits = b ∧ F.level = l := by
  obtain ⟨_, _, rfl⟩ := mkCount_tab k ix c b l F h
  exact ⟨rfl, rfl, rfl⟩

/-- `cls(indices=ids)` for a count or float class: support = distinct ids, count = multiplicity -/
theorem mkCount_ids (k : Kind) (hk : k ≠ .bit) (ids : List Nat) (bits : Nat) (lvl : Int) (g : Fp)
    (h : mkCount k (some ids) none bits lvl = .ok g) :
    g.idx = uniq ids ∧ g.kind = k ∧ ∀ j, g.count j = ((ids.count j : Nat) : Rat) := by
  obtain ⟨_, h⟩ := ite_error_eq_ok.1 h
  cases h
  refine ⟨rfl, rfl, fun j => ?_⟩
  refine (Fp.tab_count_of_zero k _ _ _ _ hk j fun hj => ?_).trans (coerce_natCast k _)
  rewrite [List.count_eq_zero_of_not_mem (mt (mem_uniq j ids).2 hj)]
  exact coerce_natCast k 0

theorem fromIndices_of_ne_bit (k : Kind) (hk : k ≠ .bit) (ix : List Nat) (c : Option (List (Nat × Rat))) (b : Nat)
    (l : Int) : fromIndices k ix c b l = mkCount k (some ix) c b l := by
  cases k with
  | bit => exact absurd rfl hk
  | count => rfl
  | float => rfl

theorem fromIndices_fields (k : Kind) (ix : List Nat) (c : Option (List (Nat × Rat))) (b : Nat) (l : Int) (F : Fp)
    (h : fromIndices k ix c b l = .ok F) :
    F.kind = k ∧ F.bits = b ∧ F.level = l ∧ (F.kind = .bit → F.cnt = []) := by
  cases k with
  | bit => obtain ⟨h1, h2, h3, h4⟩ := mkBit_fields ix b l F h; exact ⟨h1, h2, h3, fun _ => h4⟩
  | _ => obtain ⟨h1, h2, h3⟩ := mkCount_fields _ _ _ b l F h; exact ⟨h1, h2, h3, fun e => by rewrite [h1] at e; cases e⟩

theorem fromIndices_perm (k : Kind) (ids ids' : List Nat) (hp : ids'.Perm ids) (bits : Nat) (lvl : Int) :
    fromIndices k ids' none bits lvl = fromIndices k ids none bits lvl := by
  have h1 : ids'.any (fun i => decide (i ≥ bits)) = ids.any (fun i => decide (i ≥ bits)) := hp.any_eq
  have h2 : uniq ids' = uniq ids := uniq_ext _ _ (fun x => hp.mem_iff)
  have h3 : ∀ i, ids'.count i = ids.count i := fun i => hp.count_eq i
  cases k <;> simp only [fromIndices, mkBit, mkCount, h1, h2, h3]

/-! ## `countsDict`, `fromFingerprint`, `pickleRoundTrip` -/

theorem countsDict_keys (f : Fp) (hwf : f.WF) : f.countsDict.map Prod.fst = f.idx := by
  unfold Fp.countsDict
  split
  · simp [List.map_map, Function.comp_def]
  · rename_i hk; exact hwf.2.2.2 (fun e => hk e)

theorem lookupQ_countsDict (f : Fp) (i : Nat) : lookupQ f.countsDict i = f.count i := by
  unfold Fp.countsDict Fp.count
  split
  · exact lookupQ_graph f.idx (fun _ => 1) i
  · rfl

theorem countsDict_pos (f : Fp) (hpos : ∀ p ∈ f.cnt, 0 < p.2) : ∀ p ∈ f.countsDict, 0 < p.2 := by
  unfold Fp.countsDict
  split
  · intro p hp
    obtain ⟨i, _, rfl⟩ := List.mem_map.1 hp
    exact (by decide : (0 : Rat) < 1)
  · exact hpos

theorem fromFingerprint_fields (k : Kind) (f g : Fp) (h : fromFingerprint k f = .ok g) :
    g.kind = k ∧ g.bits = f.bits ∧ g.level = f.level ∧ (g.kind = .bit → g.cnt = []) := by
  cases k with
  | bit => obtain ⟨h1, h2, h3, h4⟩ := mkBit_fields _ _ _ g h; exact ⟨h1, h2, h3, fun _ => h4⟩
  | _ =>
    unfold fromFingerprint at h
    obtain ⟨h1, h2, h3⟩ := mkCount_fields _ _ _ _ _ g h
    exact ⟨h1, h2, h3, fun e => by rewrite [h1] at e; cases e⟩

/-- `from_fingerprint` into a count or float class, in closed form: same support, coerced values -/
theorem fromFingerprint_eq (k : Kind) (hk : k ≠ .bit) (f : Fp) (hwf : f.WF) (hpos : ∀ p ∈ f.cnt, 0 < p.2) :
    fromFingerprint k f =
      .ok ⟨k, f.bits, f.level, f.idx, f.idx.map (fun i => (i, coerce k (f.count i)))⟩ := by
  have hfil : f.countsDict.filter (fun p => decide (0 < p.2)) = f.countsDict := by
    rewrite [List.filter_eq_self]; intro p hp; exact decide_eq_true (countsDict_pos f hpos p hp)
  have hkeys := countsDict_keys f hwf
  unfold fromFingerprint
  split
  · exact absurd rfl hk
  · rewrite [hfil, mkCount_none_some_eq _ _ _ _ (by rewrite [hkeys]; exact hwf.2.1), hkeys, uniq_of_strictAsc _ hwf.1]
    simp only [lookupQ_countsDict]

theorem map_count_self (f : Fp) (hk : f.kind ≠ .bit) (hwf : f.WF) (k : Kind)
    (hst : ∀ p ∈ f.cnt, coerce k p.2 = p.2) :
    f.idx.map (fun i => (i, coerce k (f.count i))) = f.cnt := by
  have hkeys := hwf.2.2.2 hk
  have hnd : (f.cnt.map Prod.fst).Nodup := by rewrite [hkeys]; exact hwf.1.nodup
  have := map_lookupQ_self (coerce k) f.cnt hnd hst
  rewrite [hkeys] at this
  rewrite [← this]
  apply List.map_congr_left
  intro i _
  rw [Fp.count_of_ne_bit f hk]

/-- the indices `__setstate__` rebuilds from the count keys are the indices -/
theorem Fp.pickleRoundTrip_of_wf (f : Fp) (hwf : f.WF) : Fp.pickleRoundTrip f = f := by
  unfold Fp.pickleRoundTrip
  split
  · rfl
  · rename_i hk
    rw [hwf.2.2.2 (fun e => hk e), uniq_of_strictAsc _ hwf.1]

/-! ## reading the index array off a dense listing -/

/-- the positions of a dense listing `g 0, …, g (bits - 1)` that pass a test which holds exactly on the ascending
list `l` are `l` (how `from_vector` and `from_bitstring` find the index array again) -/
theorem filter_zipIdx_range {α : Type} (g : Nat → α) (P : α → Bool) (l : List Nat) (bits : Nat) (hs : StrictAsc l)
    (hlt : ∀ i ∈ l, i < bits) (hP : ∀ i, i < bits → (P (g i) = true ↔ i ∈ l)) :
    ((List.range bits).map g).zipIdx.filter (fun p => P p.1) = l.map (fun i => (g i, i)) := by
  rewrite [zipIdx_map_range, List.filter_map]
  refine congrArg _ (strictAsc_ext _ l (List.Pairwise.filter _ List.pairwise_lt_range) hs fun x => ?_)
  rewrite [List.mem_filter, List.mem_range]
  exact ⟨fun h => (hP x h.1).1 h.2, fun h => ⟨hlt x h, (hP x (hlt x h)).2 h⟩⟩

end E3fpVerif
