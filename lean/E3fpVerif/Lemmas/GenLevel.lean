import E3fpVerif.Model.Fprinter
import E3fpVerif.Lemmas.Uniq
/-!
# One level of shells, without the fold

`genLevel`/`genLevel0` thread an intern table through a fold over the atoms.  Here the result is
characterised without the fold: the final table is `Rl.internAll t keys`, and every shell's structural
id is the index of its key in the *final* table (`Rl.genLevel_eq_map`, `Rl.genLevel0_eq_map`).  A level is
then a list with one shell per atom, mapped over the atoms (`Rl.shellOf_map`, `Rl.map_shellOf_self`).
These carry the `Rl.` names they share with the relabelling development (`Lemmas/Relabel*.lean`), their main
client; what `shellOf` returns on any list (`shellOf_mem_or_default`, `shellOf_atom`), `nbOf` and the atoms of a level
(`genLevel_atoms`, `genLevel0_atoms`) are in the root namespace.
-/
namespace E3fpVerif

theorem shellOf_mem_or_default (l : List GShell) (a : Nat) : shellOf l a ∈ l ∨ shellOf l a = default := by
  unfold shellOf
  cases h : l.find? (fun s => s.atom = a) with
  | none => exact Or.inr rfl
  | some x => exact Or.inl (List.mem_of_find?_eq_some h)

theorem shellOf_atom (l : List GShell) (a : Nat) (h : a ∈ l.map (·.atom)) :
    shellOf l a ∈ l ∧ (shellOf l a).atom = a := by
  unfold shellOf
  cases hf : l.find? (fun s => s.atom = a) with
  | none =>
    rcases List.mem_map.1 h with ⟨x, hx, hxa⟩
    exact absurd (decide_eq_true hxa) (List.find?_eq_none.1 hf x hx)
  | some x =>
    exact ⟨List.mem_of_find?_eq_some hf, by simpa using List.find?_some hf⟩

theorem shellIdent_prev_congr (o : Opts) (m : MolG) (g : Geo) (prev prev' : List GShell) (k a : Nat) (nb : List Nat)
    (h : ∀ b, (shellOf prev b).ident = (shellOf prev' b).ident) :
    shellIdent o m g prev k a nb = shellIdent o m g prev' k a nb := by
  simp only [shellIdent, atomTuples, h]

/-- the neighbours of `a` at level `k` -/
def nbOf (o : Opts) (m : MolG) (g : Geo) (atoms : List Nat) (k a : Nat) : List Nat :=
  atoms.filter (fun b => b != a && g.within k a b && (o.includeDisconnected || bonded m a b))

namespace Rl

/-! ## the intern table after a list of keys -/

abbrev Key := Nat × List Nat

/-- intern a list of keys, in order -/
def internAll (t : Intern) (ks : List Key) : Intern := ks.foldl (fun t k => (intern t k).1) t

theorem idxOf?_eq (t : Intern) (k : Key) :
    t.idxOf? k = if k ∈ t then some (List.idxOf k t) else none := by
  by_cases h : k ∈ t
  · rewrite [if_pos h]
    unfold List.idxOf? List.idxOf
    rewrite [List.findIdx?_eq_some_iff_findIdx_eq]
    exact ⟨List.idxOf_lt_length_iff.2 h, rfl⟩
  · rewrite [if_neg h]; exact List.idxOf?_eq_none_iff.2 h

theorem intern_fst (t : Intern) (k : Key) : (intern t k).1 = if k ∈ t then t else t ++ [k] := by
  unfold intern
  rewrite [idxOf?_eq]
  by_cases h : k ∈ t <;> simp [h]

theorem intern_snd (t : Intern) (k : Key) : (intern t k).2 = List.idxOf k (intern t k).1 := by
  unfold intern
  rewrite [idxOf?_eq]
  by_cases h : k ∈ t
  · simp [h]
  · simp only [h, if_false]
    rw [List.idxOf_append, if_neg h, List.idxOf_cons_self, Nat.zero_add]

theorem internAll_nil (t : Intern) : internAll t [] = t := rfl

theorem internAll_cons (t : Intern) (k : Key) (ks : List Key) :
    internAll t (k :: ks) = internAll (intern t k).1 ks := rfl

/-- the table only grows at the end, by keys of the list -/
theorem internAll_eq_append (t : Intern) (ks : List Key) :
    ∃ r, internAll t ks = t ++ r ∧ ∀ x ∈ r, x ∈ ks := by
  induction ks generalizing t with
  | nil => exact ⟨[], (List.append_nil t).symm, fun _ h => h⟩
  | cons k ks ih =>
    rewrite [internAll_cons, intern_fst]
    by_cases h : k ∈ t
    · rewrite [if_pos h]
      obtain ⟨r, hr, hm⟩ := ih t
      exact ⟨r, hr, fun x hx => List.mem_cons_of_mem _ (hm x hx)⟩
    · rewrite [if_neg h]
      obtain ⟨r, hr, hm⟩ := ih (t ++ [k])
      exact ⟨k :: r, by rw [hr, List.append_assoc, List.singleton_append],
        List.forall_mem_cons.2 ⟨List.mem_cons_self, fun x hx => List.mem_cons_of_mem _ (hm x hx)⟩⟩

theorem internAll_prefix (t : Intern) (ks : List Key) : t <+: internAll t ks := by
  obtain ⟨r, hr, _⟩ := internAll_eq_append t ks
  exact ⟨r, hr.symm⟩

theorem mem_internAll (t : Intern) (ks : List Key) (x : Key) : x ∈ internAll t ks ↔ x ∈ t ∨ x ∈ ks := by
  induction ks generalizing t with
  | nil => exact (or_iff_left List.not_mem_nil).symm
  | cons k ks ih =>
    rewrite [internAll_cons, ih, intern_fst, List.mem_cons, ← or_assoc]
    by_cases h : k ∈ t
    · rw [if_pos h, or_iff_left_of_imp (fun e : x = k => e ▸ h)]
    · rw [if_neg h, List.mem_append, List.mem_singleton]

theorem mem_internAll_map {ι : Type} (t : Intern) (key : ι → Key) {A : List ι} {a : ι} (ha : a ∈ A) :
    key a ∈ internAll t (A.map key) :=
  (mem_internAll _ _ _).2 (Or.inr (List.mem_map.2 ⟨a, ha, rfl⟩))

theorem forall_mem_internAll {P : Key → Prop} {t : Intern} {ks : List Key} (ht : ∀ k ∈ t, P k)
    (hks : ∀ k ∈ ks, P k) : ∀ k ∈ internAll t ks, P k := fun k hk =>
  ((mem_internAll t ks k).1 hk).elim (ht k) (hks k)

theorem internAll_nodup (t : Intern) (ks : List Key) (h : t.Nodup) : (internAll t ks).Nodup := by
  induction ks generalizing t with
  | nil => exact h
  | cons k ks ih =>
    rewrite [internAll_cons, intern_fst]
    by_cases hk : k ∈ t
    · rewrite [if_pos hk]; exact ih t h
    · rewrite [if_neg hk]
      exact ih _ (List.nodup_append.2 ⟨h, List.pairwise_singleton _ k,
        fun a ha b hb e => hk (List.mem_singleton.1 hb ▸ e ▸ ha)⟩)

theorem idxOf_prefix {t T : Intern} {k : Key} (h : t <+: T) (hk : k ∈ t) : List.idxOf k T = List.idxOf k t := by
  obtain ⟨r, rfl⟩ := h
  rw [List.idxOf_append, if_pos hk]

theorem idxOf_of_getElem? {T : Intern} (hn : T.Nodup) {k : Key} {i : Nat} (h : T[i]? = some k) :
    List.idxOf k T = i := by
  obtain ⟨hi, rfl⟩ := List.getElem?_eq_some_iff.1 h
  exact hn.idxOf_getElem i hi

theorem eq_of_idxOf_eq {T : Intern} {x y : Key} (hx : x ∈ T) (e : List.idxOf x T = List.idxOf y T) : x = y := by
  have hx' := List.idxOf_lt_length_iff.2 hx
  have hy' := lt_of_eq_of_lt e.symm hx'
  exact (List.getElem_idxOf hx').symm.trans ((getElem_congr_idx e).trans (List.getElem_idxOf hy'))

/-- the fold of the generators, closed form -/
theorem foldl_intern_eq (key : Nat → Key) (mk : Nat → Nat → GShell) (l : List Nat) (t0 : Intern) (acc : List GShell) :
    l.foldl (fun (p : Intern × List GShell) a =>
        ((intern p.1 (key a)).1, p.2 ++ [mk (intern p.1 (key a)).2 a])) (t0, acc)
      = (internAll t0 (l.map key),
          acc ++ l.map (fun a => mk (List.idxOf (key a) (internAll t0 (l.map key))) a)) := by
  induction l generalizing t0 acc with
  | nil => exact congrArg (Prod.mk t0) (List.append_nil acc).symm
  | cons a l ih =>
    rewrite [List.foldl_cons, ih]
    simp only [List.map_cons, internAll_cons, List.append_assoc, List.singleton_append]
    congr 2
    rewrite [intern_snd]
    have hm : key a ∈ (intern t0 (key a)).1 :=
      (mem_internAll t0 [key a] _).2 (Or.inr (List.mem_singleton_self _))
    rw [idxOf_prefix (internAll_prefix _ _) hm]

/-! ## the shells of a level, one per atom -/

/-- `E3fpVerif.nbOf` again, under the name the `Rl.` statements use -/
def nbOf (o : Opts) (m : MolG) (g : Geo) (atoms : List Nat) (k a : Nat) : List Nat :=
  atoms.filter (fun b => b != a && g.within k a b && (o.includeDisconnected || bonded m a b))

theorem nbOf_subset (o : Opts) (m : MolG) (g : Geo) (atoms : List Nat) (k a : Nat) :
    ∀ b ∈ nbOf o m g atoms k a, b ∈ atoms := fun _ hb => (List.mem_filter.1 hb).1

/-- the neighbours under a renaming `ρ` of the atoms that is injective at `a` and carries the two
tests along: the renamed neighbours, in the same order -/
theorem nbOf_map (o : Opts) (m m' : MolG) (g g' : Geo) (ρ : Nat → Nat) (A : List Nat) (k a : Nat)
    (hinj : ∀ b ∈ A, ρ b = ρ a → b = a)
    (hw : ∀ b ∈ A, g'.within k (ρ a) (ρ b) = g.within k a b)
    (hb : ∀ b ∈ A, bonded m' (ρ a) (ρ b) = bonded m a b) :
    nbOf o m' g' (A.map ρ) k (ρ a) = (nbOf o m g A k a).map ρ := by
  unfold nbOf
  rewrite [List.filter_map]
  refine congrArg (List.map ρ) (List.filter_congr ?_)
  intro b hb'
  have : (ρ b != ρ a) = (b != a) := by
    rewrite [Bool.eq_iff_iff]; simp only [bne_iff_ne, ne_eq]
    exact not_congr ⟨hinj b hb', fun e => by rw [e]⟩
  simp only [Function.comp, hw b hb', hb b hb', this]

/-- the structural key of the level-`k` shell of `a` -/
def genKey (o : Opts) (m : MolG) (g : Geo) (atoms : List Nat) (prev : List GShell) (k a : Nat) : Key :=
  (a, uniq ((nbOf o m g atoms k a).map (fun b => (shellOf prev b).sid)))

theorem mem_genKey {o : Opts} {m : MolG} {g : Geo} {atoms : List Nat} {prev : List GShell} {k a i : Nat} :
    i ∈ (genKey o m g atoms prev k a).2 ↔ ∃ b ∈ nbOf o m g atoms k a, (shellOf prev b).sid = i := by
  simp only [genKey, mem_uniq, List.mem_map]

/-- the level-`k` shell of `a`, its id read off the table `T` -/
def genShellT (o : Opts) (m : MolG) (g : Geo) (atoms : List Nat) (prev : List GShell) (k : Nat)
    (T : Intern) (a : Nat) : GShell :=
  { atom := a
    sid := List.idxOf (genKey o m g atoms prev k a) T
    sub := uniq (a :: (nbOf o m g atoms k a).flatMap (fun b => (shellOf prev b).sub))
    nbrs := nbOf o m g atoms k a
    ident := shellIdent o m g prev k a (nbOf o m g atoms k a) }

theorem genLevel_eq_map (o : Opts) (m : MolG) (g : Geo) (atoms : List Nat) (prev : List GShell) (k : Nat)
    (t : Intern) :
    genLevel o m g atoms prev k t =
      (internAll t (atoms.map (genKey o m g atoms prev k)),
        atoms.map (genShellT o m g atoms prev k (internAll t (atoms.map (genKey o m g atoms prev k))))) := by
  have h := foldl_intern_eq (genKey o m g atoms prev k)
    (fun i a => { atom := a, sid := i
                  sub := uniq (a :: (nbOf o m g atoms k a).flatMap (fun b => (shellOf prev b).sub))
                  nbrs := nbOf o m g atoms k a
                  ident := shellIdent o m g prev k a (nbOf o m g atoms k a) }) atoms t []
  rewrite [List.nil_append] at h
  -- `genLevel` unfolds to this fold: its `let (t', i) := intern …` is the pair of projections, `nbOf` its filter
  exact h

theorem genLevel_sid_pairwise (o : Opts) (m : MolG) (g : Geo) (A : List Nat) (hA : A.Nodup) (prev : List GShell)
    (k : Nat) (t : Intern) : (genLevel o m g A prev k t).2.Pairwise (fun a b => a.sid ≠ b.sid) := by
  rewrite [genLevel_eq_map, List.pairwise_map]
  refine hA.imp_of_mem ?_
  intro a b ha _ hab e
  exact hab (congrArg Prod.fst (eq_of_idxOf_eq (mem_internAll_map t _ ha) e))

theorem genShellT_sub_subset (o : Opts) (m : MolG) (g : Geo) (atoms : List Nat) (prev : List GShell)
    (hprev : ∀ x ∈ prev, ∀ y ∈ x.sub, y ∈ atoms) (k : Nat) (T : Intern) (a : Nat) (ha : a ∈ atoms) :
    ∀ y ∈ (genShellT o m g atoms prev k T a).sub, y ∈ atoms := by
  intro y hy
  rcases List.mem_cons.1 ((mem_uniq _ _).1 hy) with rfl | hy
  · exact ha
  · obtain ⟨b, _, hyb⟩ := List.mem_flatMap.1 hy
    rcases shellOf_mem_or_default prev b with h | h
    · exact hprev _ h y hyb
    · rewrite [h] at hyb; cases hyb

def gen0ShellT (o : Opts) (m : MolG) (T : Intern) (a : Nat) : GShell :=
  { atom := a, sid := List.idxOf ((a, []) : Key) T, sub := [a], nbrs := [], ident := initIdent o m a }

theorem genLevel0_eq_map (o : Opts) (m : MolG) (atoms : List Nat) (t : Intern) :
    genLevel0 o m atoms t =
      (internAll t (atoms.map (fun a => ((a, []) : Key))),
        atoms.map (gen0ShellT o m (internAll t (atoms.map (fun a => ((a, []) : Key)))))) := by
  have h := foldl_intern_eq (fun a => ((a, []) : Key))
    (fun i a => { atom := a, sid := i, sub := [a], nbrs := [], ident := initIdent o m a }) atoms t []
  rewrite [List.nil_append] at h
  exact h

theorem initState_eq_map (o : Opts) (m : MolG) (atoms : List Nat) :
    initState o m atoms =
      { tbl := internAll [] (atoms.map (fun a => ((a, []) : Key))),
        gen := [atoms.map (gen0ShellT o m (internAll [] (atoms.map (fun a => ((a, []) : Key)))))],
        levelShells := [atoms.map (gen0ShellT o m (internAll [] (atoms.map (fun a => ((a, []) : Key)))))],
        past := (atoms.map (gen0ShellT o m (internAll [] (atoms.map (fun a => ((a, []) : Key)))))).map (·.sub) } := by
  unfold initState
  rw [genLevel0_eq_map]

theorem shellOf_map (mk : Nat → GShell) (hmk : ∀ a, (mk a).atom = a) (l : List Nat) (a : Nat) (ha : a ∈ l) :
    shellOf (l.map mk) a = mk a := by
  unfold shellOf
  induction l with
  | nil => cases ha
  | cons b l ih =>
    rewrite [List.map_cons, List.find?_cons]
    by_cases hb : b = a
    · rewrite [decide_eq_true ((hmk b).trans hb), hb]; rfl
    · rewrite [decide_eq_false fun e => hb ((hmk b).symm.trans e)]
      exact ih ((List.mem_cons.1 ha).resolve_left fun e => hb e.symm)

/-- a list with one shell per atom of `A` is recovered by looking the atoms up -/
theorem map_shellOf_self (l : List GShell) {A : List Nat} (hA : l.map (·.atom) = A) (hn : A.Nodup) :
    A.map (shellOf l) = l := by
  subst hA
  rewrite [List.map_map]
  refine (List.map_congr_left fun x hx => ?_).trans (List.map_id l)
  have h := shellOf_atom l x.atom (List.mem_map.2 ⟨x, hx, rfl⟩)
  exact inj_of_nodup_map (·.atom) l hn _ h.1 _ hx h.2

end Rl

theorem genLevel_atoms (o : Opts) (m : MolG) (g : Geo) (atoms : List Nat) (prev : List GShell) (k : Nat)
    (t : Intern) : (genLevel o m g atoms prev k t).2.map (·.atom) = atoms := by
  rewrite [Rl.genLevel_eq_map, List.map_map]
  exact List.map_id atoms

theorem genLevel0_atoms (o : Opts) (m : MolG) (atoms : List Nat) (t : Intern) :
    (genLevel0 o m atoms t).2.map (·.atom) = atoms := by
  rewrite [Rl.genLevel0_eq_map, List.map_map]
  exact List.map_id atoms

end E3fpVerif
