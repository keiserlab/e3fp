import E3fpVerif.Lemmas.FpAux
import E3fpVerif.Lemmas.GeoRelabel
import E3fpVerif.Lemmas.RelabelBasic
import E3fpVerif.Lemmas.RelabelPerm
import E3fpVerif.Lemmas.RelabelTbl
import E3fpVerif.Lemmas.RelabelSub
/-!
# Renumbering the atoms leaves the fingerprint unchanged (C03): the simulation

Two runs, on `(m, g)` with atoms `A` and on `(m', g')` with atoms `A'`, a permutation of `A.map π`, everything carried
along by `π` (`RCtx`).  `StRel` relates them level by level: generator shells one to one (`ShellRel`; structural ids under
a partial bijection `S` under which the intern tables hold corresponding keys, `TblRel`; `LevelEquiv` is `PermRel (ShellRel ..)`
of two whole levels), `level_shells` as multisets of `(identifier, substructure)` (`IdSubRel` under `PermRel`; the last entry
also as `LevelEquiv` when duplicates are kept), `past_substructs` as sets.  The two tie-breaks by atom index:
in `lt3`, by hypothesis `StereoSym` (only when `o.stereo = true`); in `ltShell`, by fact (D), `Rl.dedupSpec_permRel`.
-/
namespace E3fpVerif
open Rl

/-- `p'` is `p` mapped elementwise by `π` (and re-sorted), and back -/
def SubRel (π πi : Nat → Nat) (p p' : List Nat) : Prop := p' = uniq (p.map π) ∧ p = uniq (p'.map πi)

theorem SubRel.biUnique {π πi : Nat → Nat} {p q p' q' : List Nat} (h1 : SubRel π πi p p') (h2 : SubRel π πi q q') :
    p = q ↔ p' = q' := by
  constructor
  · intro e; rw [h1.1, h2.1, e]
  · intro e; rw [h1.2, h2.2, e]

theorem SubRel.length_eq {π πi : Nat → Nat} {p p' : List Nat} (h : SubRel π πi p p') : p.length = p'.length := by
  have h1 := length_uniq_le (p.map π)
  have h2 := length_uniq_le (p'.map πi)
  rewrite [← h.1, List.length_map] at h1
  rewrite [← h.2, List.length_map] at h2
  exact Nat.le_antisymm h2 h1

/-- a list and its image under `π`, both in normal form -/
theorem subRel_uniq {π πi : Nat → Nat} (hπ : ∀ a, πi (π a) = a) (l l' : List Nat)
    (h : ∀ x, x ∈ l' ↔ x ∈ l.map π) : SubRel π πi (uniq l) (uniq l') := by
  rewrite [uniq_ext l' _ h]
  refine ⟨(uniq_map_uniq l π).symm, ?_⟩
  rw [uniq_map_uniq, List.map_map, (List.map_congr_left (fun a _ => hπ a) : l.map (πi ∘ π) = l.map id), List.map_id]

theorem SubRel.mem_right {π πi : Nat → Nat} {p p' : List Nat} (h : SubRel π πi p p') (x : Nat) :
    x ∈ p' ↔ x ∈ p.map π := by
  rw [h.1, mem_uniq]

structure ShellRel (π πi : Nat → Nat) (S : Nat → Nat → Prop) (x x' : GShell) : Prop where
  atom : x'.atom = π x.atom
  ident : x'.ident = x.ident
  sub : SubRel π πi x.sub x'.sub
  sid : S x.sid x'.sid

theorem ShellRel.mono {π πi : Nat → Nat} {S S₂ : Nat → Nat → Prop} (h : ∀ i j, S i j → S₂ i j) {x x' : GShell}
    (hx : ShellRel π πi S x x') : ShellRel π πi S₂ x x' :=
  ⟨hx.atom, hx.ident, hx.sub, h _ _ hx.sid⟩

/-- what the fingerprint sees of a shell: identifier and substructure -/
def IdSubRel (π πi : Nat → Nat) (x x' : GShell) : Prop := x'.ident = x.ident ∧ SubRel π πi x.sub x'.sub

theorem ShellRel.idSub {π πi : Nat → Nat} {S : Nat → Nat → Prop} {x x' : GShell} (hx : ShellRel π πi S x x') :
    IdSubRel π πi x x' := ⟨hx.ident, hx.sub⟩

/-- **the level-wise relation**: a bijection between the shells of `l` and `l'` along which the centre
is mapped by `π`, the identifier is equal, the substructure is mapped elementwise by `π`, and the
interned structural ids correspond under the partial bijection `S` of ids -/
def LevelEquiv (π πi : Nat → Nat) (S : Nat → Nat → Prop) (l l' : List GShell) : Prop :=
  PermRel (ShellRel π πi S) l l'

theorem permRel_sub_mem {π πi : Nat → Nat} {l l' : List GShell} (h : PermRel (IdSubRel π πi) l l')
    {p p' : List Nat} (hp : SubRel π πi p p') : p ∈ l.map (·.sub) ↔ p' ∈ l'.map (·.sub) := by
  simp only [List.mem_map]
  constructor
  · rintro ⟨x, hx, rfl⟩
    obtain ⟨x', hx', hr⟩ := h.exists_right x hx
    exact ⟨x', hx', ((SubRel.biUnique hr.2 hp).1 rfl)⟩
  · rintro ⟨x', hx', rfl⟩
    obtain ⟨x, hx, hr⟩ := h.exists_left x' hx'
    exact ⟨x, hx, ((SubRel.biUnique hr.2 hp).2 rfl)⟩

structure RCtx (π πi : Nat → Nat) (o : Opts) (m m' : MolG) (g g' : Geo) (A A' : List Nat) : Prop where
  left : ∀ a, πi (π a) = a
  right : ∀ a, π (πi a) = a
  perm : A'.Perm (A.map π)
  nodup : A.Nodup
  within : ∀ k a b, g'.within k (π a) (π b) = g.within k a b
  conn : ∀ a b, conn m' (π a) (π b) = conn m a b
  bonded : ∀ a b, bonded m' (π a) (π b) = bonded m a b
  init : ∀ a, initIdent o m' (π a) = initIdent o m a
  stereo : o.stereo = true → StereoSym π g g'

section ctx
variable {π πi : Nat → Nat} {o : Opts} {m m' : MolG} {g g' : Geo} {A A' : List Nat}

theorem RCtx.inj (c : RCtx π πi o m m' g g' A A') : ∀ a b, π a = π b → a = b :=
  fun _ _ e => Function.LeftInverse.injective c.left e

theorem RCtx.nodup' (c : RCtx π πi o m m' g g' A A') : A'.Nodup := by
  rewrite [c.perm.nodup_iff]
  exact c.nodup.map (Function.LeftInverse.injective c.left)

theorem RCtx.mem' (c : RCtx π πi o m m' g g' A A') (a : Nat) : π a ∈ A' ↔ a ∈ A := by
  rewrite [c.perm.mem_iff]
  exact List.mem_map_of_injective (Function.LeftInverse.injective c.left)

theorem RCtx.length_eq (c : RCtx π πi o m m' g g' A A') : A'.length = A.length := by
  rw [c.perm.length_eq, List.length_map]

-- `Rl.nbOf` in full: the bare name would mean the base layer's definition of the same name and body
theorem nbOf_relabel (c : RCtx π πi o m m' g g' A A') (k a : Nat) :
    (Rl.nbOf o m' g' A' k (π a)).Perm ((Rl.nbOf o m g A k a).map π) :=
  (c.perm.filter _).trans (List.Perm.of_eq (nbOf_map o m m' g g' π A k a (fun _ _ e => c.inj _ _ e)
    (fun b _ => c.within k a b) (fun b _ => c.bonded a b)))

theorem mem_nbOf_relabel (c : RCtx π πi o m m' g g' A A') (k a b' : Nat) :
    b' ∈ Rl.nbOf o m' g' A' k (π a) ↔ ∃ b ∈ Rl.nbOf o m g A k a, π b = b' := by
  rw [(nbOf_relabel c k a).mem_iff, List.mem_map]

def baseTuples (m : MolG) (prev : List GShell) (a : Nat) (nb : List Nat) : List (Nat × Int × Nat) :=
  sortByLt lt3 (nb.map (fun b => (conn m a b, (shellOf prev b).ident, b)))

def hashTuples (o : Opts) (g : Geo) (a : Nat) (base : List (Nat × Int × Nat)) : List (List Int) :=
  if o.stereo then (stereoTriples g a base).map (fun t => [(t.1 : Int), t.2.1, t.2.2])
  else base.map (fun t => [(t.1 : Int), t.2.1])

theorem atomTuples_eq (o : Opts) (m : MolG) (g : Geo) (prev : List GShell) (a : Nat) (nb : List Nat) :
    atomTuples o m g prev a nb =
      if nb = [] then [] else (sortByLt ltIntList (hashTuples o g a (baseTuples m prev a nb))).flatten := by
  unfold atomTuples hashTuples baseTuples stereoTriples
  cases o.stereo
  · rfl
  · simp only [if_true, List.map_map]
    rfl

theorem baseTuples_relabel (c : RCtx π πi o m m' g g' A A') (prev prev' : List GShell)
    (hprev : ∀ b ∈ A, (shellOf prev' (π b)).ident = (shellOf prev b).ident)
    (a : Nat) (nb nb' : List Nat) (hnb : ∀ b ∈ nb, b ∈ A) (hp : nb'.Perm (nb.map π)) :
    (baseTuples m' prev' (π a) nb').Perm ((baseTuples m prev a nb).map (relTuple π)) := by
  unfold baseTuples
  refine (sortByLt_perm _ _).trans ?_
  refine (hp.map _).trans ?_
  refine List.Perm.trans ?_ ((sortByLt_perm lt3 _).map (relTuple π)).symm
  apply List.Perm.of_eq
  rewrite [List.map_map, List.map_map]
  apply List.map_congr_left
  intro b hb
  simp only [Function.comp, relTuple, c.conn, hprev b (hnb b hb)]

theorem atomTuples_relabel (c : RCtx π πi o m m' g g' A A') (prev prev' : List GShell)
    (hprev : ∀ b ∈ A, (shellOf prev' (π b)).ident = (shellOf prev b).ident)
    (a : Nat) (nb nb' : List Nat) (hnb : ∀ b ∈ nb, b ∈ A) (hp : nb'.Perm (nb.map π)) :
    atomTuples o m' g' prev' (π a) nb' = atomTuples o m g prev a nb := by
  rewrite [atomTuples_eq, atomTuples_eq]
  have hnil : (nb' = []) ↔ (nb = []) := by
    rw [← List.length_eq_zero_iff, ← List.length_eq_zero_iff, hp.length_eq, List.length_map]
  refine if_congr hnil rfl (congrArg List.flatten ?_)
  have hb := baseTuples_relabel c prev prev' hprev a nb nb' hnb hp
  apply sortByLt_eq_of_perm ltIntList ltIntList_irrefl ltIntList_trans _ _ (fun a _ b _ => ltIntList_trich a b)
  unfold hashTuples
  cases hst : o.stereo
  · simp only [Bool.false_eq_true, if_false]
    refine (hb.map _).trans ?_
    rewrite [List.map_map]
    exact List.Perm.of_eq rfl
  · simp only [if_true]
    exact (c.stereo hst a _ _ hb (sortByLt_sorted lt3 lt3_irrefl lt3_trans _)
      (sortByLt_sorted lt3 lt3_irrefl lt3_trans _)).map _

/-- the id relation after generating level `k` -/
def genS (π : Nat → Nat) (o : Opts) (m m' : MolG) (g g' : Geo) (A A' : List Nat) (prev prev' : List GShell) (k : Nat)
    (t t' : Intern) (S : Nat → Nat → Prop) : Nat → Nat → Prop :=
  extS S π A (internAll t (A.map (genKey o m g A prev k))) (internAll t' (A'.map (genKey o m' g' A' prev' k)))
    (genKey o m g A prev k) (genKey o m' g' A' prev' k)

/-- **level `k ≥ 1`**: the tables stay related and the generated shells correspond, identifiers included -/
theorem genLevel_relabel (c : RCtx π πi o m m' g g' A A') (S : Nat → Nat → Prop) (t t' : Intern)
    (htbl : TblRel π S t t') (prev prev' : List GShell)
    (hprev : ∀ b ∈ A, ShellRel π πi S (shellOf prev b) (shellOf prev' (π b))) (k : Nat) :
    TblRel π (genS π o m m' g g' A A' prev prev' k t t' S)
      (internAll t (A.map (genKey o m g A prev k))) (internAll t' (A'.map (genKey o m' g' A' prev' k))) ∧
    ∀ a ∈ A, ShellRel π πi (genS π o m m' g g' A A' prev prev' k t t' S)
      (genShellT o m g A prev k (internAll t (A.map (genKey o m g A prev k))) a)
      (genShellT o m' g' A' prev' k (internAll t' (A'.map (genKey o m' g' A' prev' k))) (π a)) := by
  have hk : ∀ a ∈ A, KRel π S (genKey o m g A prev k a) (genKey o m' g' A' prev' k (π a)) := by
    intro a _
    refine ⟨rfl, ?_, ?_⟩
    · intro i hi
      obtain ⟨b, hb, rfl⟩ := mem_genKey.1 hi
      exact ⟨_, mem_genKey.2 ⟨π b, (mem_nbOf_relabel c k a _).2 ⟨b, hb, rfl⟩, rfl⟩,
        (hprev b (nbOf_subset _ _ _ _ _ _ b hb)).sid⟩
    · intro j hj
      obtain ⟨b', hb', rfl⟩ := mem_genKey.1 hj
      obtain ⟨b, hb, rfl⟩ := (mem_nbOf_relabel c k a _).1 hb'
      exact ⟨_, mem_genKey.2 ⟨b, hb, rfl⟩, (hprev b (nbOf_subset _ _ _ _ _ _ b hb)).sid⟩
  refine ⟨intern_relabel π c.inj S t t' htbl A A' c.perm _ _ hk
    (fun a _ => strictAsc_uniq _) (fun a _ => strictAsc_uniq _), ?_⟩
  intro a ha
  refine ⟨rfl, ?_, ?_, extS_new ha⟩
  · simp only [genShellT, shellIdent]
    rw [atomTuples_relabel c prev prev' (fun b hb => (hprev b hb).ident) a _ _ (nbOf_subset _ _ _ _ _ _)
      (nbOf_relabel c k a), (hprev a ha).ident]
  · simp only [genShellT]
    apply subRel_uniq c.left
    intro x
    -- both sides: `x` is the image of the centre, or lies in the substructure of a neighbour's shell
    simp only [List.map_cons, List.map_flatMap, List.mem_cons, List.mem_flatMap, mem_nbOf_relabel c k a,
      exists_exists_and_eq_and]
    exact or_congr_right (exists_congr fun b => and_congr_right fun hb =>
      (hprev b (nbOf_subset _ _ _ _ _ _ b hb)).sub.mem_right x)

/-- the id relation after level 0 -/
def gen0S (π : Nat → Nat) (A A' : List Nat) : Nat → Nat → Prop :=
  extS (fun _ _ => False) π A (internAll [] (A.map (fun a => ((a, []) : Key))))
    (internAll [] (A'.map (fun a => ((a, []) : Key)))) (fun a => ((a, []) : Key)) (fun a => ((a, []) : Key))

/-- **level 0** -/
theorem genLevel0_relabel (c : RCtx π πi o m m' g g' A A') :
    TblRel π (gen0S π A A') (internAll [] (A.map (fun a => ((a, []) : Key))))
      (internAll [] (A'.map (fun a => ((a, []) : Key)))) ∧
    ∀ a ∈ A, ShellRel π πi (gen0S π A A')
      (gen0ShellT o m (internAll [] (A.map (fun a => ((a, []) : Key)))) a)
      (gen0ShellT o m' (internAll [] (A'.map (fun a => ((a, []) : Key)))) (π a)) := by
  refine ⟨intern_relabel π c.inj _ [] [] (TblRel.empty π) A A' c.perm _ _
    (fun a _ => ⟨rfl, fun _ h => absurd h List.not_mem_nil, fun _ h => absurd h List.not_mem_nil⟩)
    (fun a _ => List.Pairwise.nil) (fun a _ => List.Pairwise.nil), ?_⟩
  intro a ha
  refine ⟨rfl, ?_, subRel_uniq c.left [a] [π a] (fun _ => Iff.rfl), extS_new ha⟩
  -- the projection reduced first: unifying with `c.init a` as it stands unfolds `initIdent`
  dsimp only [gen0ShellT]
  exact c.init a

/-- level 0: the intern tables correspond and the generated shells are `LevelEquiv` -/
theorem genLevel0_levelEquiv (c : RCtx π πi o m m' g g' A A') :
    TblRel π (gen0S π A A') (genLevel0 o m A []).1 (genLevel0 o m' A' []).1 ∧
    LevelEquiv π πi (gen0S π A A') (genLevel0 o m A []).2 (genLevel0 o m' A' []).2 := by
  obtain ⟨h1, h2⟩ := genLevel0_relabel c
  rewrite [genLevel0_eq_map, genLevel0_eq_map]
  exact ⟨h1, PermRel.of_map A A' π c.perm _ _ h2⟩

/-- level `k ≥ 1`: from related tables and corresponding previous shells, the intern tables correspond
and the generated shells are `LevelEquiv` (in particular their identifiers are equal) -/
theorem genLevel_levelEquiv (c : RCtx π πi o m m' g g' A A') (S : Nat → Nat → Prop) (t t' : Intern)
    (htbl : TblRel π S t t') (prev prev' : List GShell)
    (hprev : ∀ b ∈ A, ShellRel π πi S (shellOf prev b) (shellOf prev' (π b))) (k : Nat) :
    TblRel π (genS π o m m' g g' A A' prev prev' k t t' S)
      (genLevel o m g A prev k t).1 (genLevel o m' g' A' prev' k t').1 ∧
    LevelEquiv π πi (genS π o m m' g g' A A' prev prev' k t t' S)
      (genLevel o m g A prev k t).2 (genLevel o m' g' A' prev' k t').2 := by
  obtain ⟨h1, h2⟩ := genLevel_relabel c S t t' htbl prev prev' hprev k
  rewrite [genLevel_eq_map, genLevel_eq_map]
  exact ⟨h1, PermRel.of_map A A' π c.perm _ _ h2⟩

end ctx

section accept
variable {π πi : Nat → Nat}

-- `accept_relabel` is stated for `Rl.dedupSpec` (as `stepAcc`, `stepPast` are); in this namespace the bare name
-- would mean the base layer's `dedupSpec`
local notation "dedupSpec" => Rl.dedupSpec

/-- **the accept step**: corresponding generated shells are sorted, filtered and merged into
corresponding `level_shells` entries; fact (D) covers the order of ties in the duplicate filter -/
theorem accept_relabel (o : Opts) (S₂ : Nat → Nat → Prop) (hbi : BiUnique S₂)
    (shells shells' : List GShell) (hsh : PermRel (ShellRel π πi S₂) shells shells')
    (hpw : shells.Pairwise (fun a b => a.sid ≠ b.sid)) (hpw' : shells'.Pairwise (fun a b => a.sid ≠ b.sid))
    (prevLS prevLS' : List GShell) (past past' : List (List Nat))
    (hpast : ∀ p p', SubRel π πi p p' → (p ∈ past ↔ p' ∈ past'))
    (hls : PermRel (IdSubRel π πi) prevLS prevLS')
    (hlsS : o.removeDup = false → PermRel (ShellRel π πi S₂) prevLS prevLS')
    (hun : o.removeDup = true → unionShells prevLS (dedupSpec past (sortByLt ltShell shells))
      = prevLS ++ dedupSpec past (sortByLt ltShell shells))
    (hun' : o.removeDup = true → unionShells prevLS' (dedupSpec past' (sortByLt ltShell shells'))
      = prevLS' ++ dedupSpec past' (sortByLt ltShell shells')) :
    PermRel (IdSubRel π πi) (unionShells prevLS (stepAcc o past (sortByLt ltShell shells)))
      (unionShells prevLS' (stepAcc o past' (sortByLt ltShell shells'))) ∧
    (o.removeDup = false →
      PermRel (ShellRel π πi S₂) (unionShells prevLS (stepAcc o past (sortByLt ltShell shells)))
        (unionShells prevLS' (stepAcc o past' (sortByLt ltShell shells')))) ∧
    (∀ p p', SubRel π πi p p' →
      (p ∈ stepPast o past (sortByLt ltShell shells) ↔ p' ∈ stepPast o past' (sortByLt ltShell shells'))) := by
  have hsorted := (hsh.perm_left (sortByLt_perm ltShell shells).symm).perm_right (sortByLt_perm ltShell shells').symm
  have hsortedI : PermRel (IdSubRel π πi) (sortByLt ltShell shells) (sortByLt ltShell shells') :=
    hsorted.mono (fun _ _ h => h.idSub)
  have hspw := ((sortByLt_perm ltShell shells).pairwise_iff Ne.symm).2 hpw
  have hspw' := ((sortByLt_perm ltShell shells').pairwise_iff Ne.symm).2 hpw'
  cases hd : o.removeDup
  · -- no duplicate removal: every structurally new shell is kept
    simp only [stepAcc, stepPast, hd, Bool.false_eq_true, if_false]
    rewrite [unionShells_eq_filter _ _ hspw, unionShells_eq_filter _ _ hspw']
    have hold := hlsS hd
    suffices hmain : PermRel (ShellRel π πi S₂) _ _ from ⟨hmain.mono (fun _ _ h => h.idSub), fun _ => hmain, hpast⟩
    apply hold.append
    apply hsorted.filter
    intro z _ z' _ hz
    refine congrArg not (PermRel.any_eq _ _ (fun x x' hx => ?_) hold)
    rewrite [Bool.eq_iff_iff, beq_iff_eq, beq_iff_eq]
    exact hbi _ _ _ _ hx.sid hz.sid
  · -- duplicate removal: the union is an append, and (D) relates the accepted shells
    simp only [stepAcc, stepPast, hd, if_true]
    rewrite [hun hd, hun' hd]
    have hD := dedupSpec_permRel (SubRel π πi) (fun _ _ _ _ h1 h2 => SubRel.biUnique h1 h2) past past' hpast _ _
      hsortedI (sortByLt_ltShell_ident_sorted _) (sortByLt_ltShell_ident_sorted _)
    refine ⟨hls.append hD, (fun h => by cases h), ?_⟩
    intro p p' hp
    rw [dedupSpec_eq, mem_past_dedupSpec, mem_past_dedupSpec, List.mem_append, List.mem_append, hpast p p' hp,
      permRel_sub_mem hsortedI hp]

end accept

/-- the two runs are in corresponding states (`S`: the partial bijection of structural ids so far) -/
structure StRel (π πi : Nat → Nat) (o : Opts) (A : List Nat) (S : Nat → Nat → Prop) (s s' : FState) : Prop where
  tbl : TblRel π S s.tbl s'.tbl
  genLen : s'.gen.length = s.gen.length
  gen : ∀ a ∈ A, ShellRel π πi S (shellOf (s.gen.getLastD []) a) (shellOf (s'.gen.getLastD []) (π a))
  lsLen : s'.levelShells.length = s.levelShells.length
  ls : ∀ k, PermRel (IdSubRel π πi) (s.levelShells.getD k []) (s'.levelShells.getD k [])
  lsS : o.removeDup = false →
    LevelEquiv π πi S (s.levelShells.getLastD []) (s'.levelShells.getLastD [])
  past : ∀ p p', SubRel π πi p p' → (p ∈ s.past ↔ p' ∈ s'.past)

section sim
variable {π πi : Nat → Nat} {o : Opts} {m m' : MolG} {g g' : Geo} {A A' : List Nat}

theorem init_relabel (c : RCtx π πi o m m' g g' A A') :
    StRel π πi o A (gen0S π A A') (initState o m A) (initState o m' A') := by
  obtain ⟨htbl, hsh⟩ := genLevel0_relabel c
  have hPR := PermRel.of_map A A' π c.perm _ _ hsh
  rewrite [initState_eq_map, initState_eq_map]
  refine ⟨htbl, rfl, ?_, rfl, ?_, fun _ => hPR, ?_⟩
  · intro a ha
    simp only [List.getLastD_cons, List.getLastD_nil]
    rewrite [shellOf_map _ (fun _ => rfl) A a ha, shellOf_map _ (fun _ => rfl) A' (π a) ((c.mem' a).2 ha)]
    exact hsh a ha
  · intro k
    cases k with
    | zero => exact hPR.mono (fun _ _ h => h.idSub)
    | succ k => exact PermRel.nil _
  · intro p p' hp
    exact permRel_sub_mem (hPR.mono (fun _ _ h => h.idSub)) hp

/-- **one step**: both runs stop, or both continue into corresponding states (`UInv`: the invariant of each run by
itself, `Lemmas/RelabelSub.lean`, which makes the union an append under duplicate removal) -/
theorem step_relabel (c : RCtx π πi o m m' g g' A A') (S : Nat → Nat → Prop) (s s' : FState)
    (h : StRel π πi o A S s s') (subOf subOf' : Nat → List Nat)
    (hu : UInv o A subOf s) (hu' : UInv o A' subOf' s') :
    (stepState o m g A s = none ∧ stepState o m' g' A' s' = none) ∨
    ∃ r r' S₂, stepState o m g A s = some r ∧ stepState o m' g' A' s' = some r' ∧ StRel π πi o A S₂ r r' := by
  have hcur : s'.currentLevel = s.currentLevel := by unfold FState.currentLevel; rw [h.genLen]
  have hgenPR : PermRel (ShellRel π πi S) (s.gen.getLastD []) (s'.gen.getLastD []) := by
    -- one shell per atom on both sides, corresponding atom by atom
    rewrite [← map_shellOf_self _ hu.genAtoms c.nodup, ← map_shellOf_self _ hu'.genAtoms c.nodup']
    exact PermRel.of_map A A' π c.perm _ _ h.gen
  have hall : (s'.gen.getLastD []).all (fun x => x.sub.length == A'.length)
      = (s.gen.getLastD []).all (fun x => x.sub.length == A.length) := by
    symm
    apply PermRel.all_eq _ _ _ hgenPR
    intro x x' hr
    rw [hr.sub.length_eq, c.length_eq]
  obtain ⟨_, hsh2⟩ := genLevel_relabel c S s.tbl s'.tbl h.tbl (s.gen.getLastD []) (s'.gen.getLastD []) h.gen
    (s.currentLevel + 1)
  obtain ⟨htbl2, hPR⟩ := genLevel_levelEquiv c S s.tbl s'.tbl h.tbl (s.gen.getLastD []) (s'.gen.getLastD []) h.gen
    (s.currentLevel + 1)
  have hpw := genLevel_sid_pairwise o m g A c.nodup (s.gen.getLastD []) (s.currentLevel + 1) s.tbl
  have hpw' := genLevel_sid_pairwise o m' g' A' c.nodup' (s'.gen.getLastD []) (s.currentLevel + 1) s'.tbl
  have hlsPrev : PermRel (IdSubRel π πi) (s.levelShells.getLastD []) (s'.levelShells.getLastD []) := by
    rewrite [getLastD_eq_getD, getLastD_eq_getD, h.lsLen]; exact h.ls _
  have hun := union_eq_append o m g A subOf s hu
  have hun' := union_eq_append o m' g' A' subOf' s' hu'
  rewrite [hcur] at hun'
  obtain ⟨hA1, hA2, hA3⟩ := accept_relabel o _ htbl2.bi _ _ hPR hpw hpw' (s.levelShells.getLastD [])
    (s'.levelShells.getLastD []) s.past s'.past h.past hlsPrev
    (fun hd => (h.lsS hd).mono (fun _ _ hx => hx.mono (fun _ _ => extS_old))) hun hun'
  -- the stop tests agree: same level, `hall`, and the third rule compares lengths of corresponding lists
  have hstop : stopsG (genLevel o m' g' A') o A' s' = stopsG (genLevel o m g A) o A s := by
    simp only [stopsG, stepAccG_eq, hcur, hall, ← hA1.length_eq, ← hlsPrev.length_eq]
  rewrite [stepState_eq_G, stepState_eq_G, stepStateG_eq, stepStateG_eq, hstop]
  simp only [stepNextG, stepAccG_eq, hcur]
  cases stopsG (genLevel o m g A) o A s
  · right
    refine ⟨_, _, genS π o m m' g g' A A' (s.gen.getLastD []) (s'.gen.getLastD []) (s.currentLevel + 1)
      s.tbl s'.tbl S, rfl, rfl, ?_, ?_, ?_, ?_, ?_, ?_, hA3⟩
    · exact htbl2
    · simp only [List.length_append, h.genLen, List.length_singleton]
    · intro a ha
      rewrite [List.getLastD_concat, List.getLastD_concat, genLevel_eq_map, genLevel_eq_map,
             shellOf_map _ (fun _ => rfl) A a ha, shellOf_map _ (fun _ => rfl) A' (π a) ((c.mem' a).2 ha)]
      exact hsh2 a ha
    · simp only [List.length_append, h.lsLen, List.length_singleton]
    · intro k
      rewrite [getD_snoc, getD_snoc, h.lsLen]
      by_cases h1 : k < s.levelShells.length
      · rewrite [if_pos h1, if_pos h1]; exact h.ls k
      · rewrite [if_neg h1, if_neg h1]
        by_cases h2 : k = s.levelShells.length
        · rewrite [if_pos h2, if_pos h2]; exact hA1
        · rewrite [if_neg h2, if_neg h2]; exact PermRel.nil _
    · intro hd
      simp only [List.getLastD_concat]
      exact hA2 hd
  · exact Or.inl ⟨rfl, rfl⟩

/-- `step_relabel` under the name of the model's function -/
theorem stepState_relabel (c : RCtx π πi o m m' g g' A A') (S : Nat → Nat → Prop) (s s' : FState)
    (h : StRel π πi o A S s s') (subOf subOf' : Nat → List Nat)
    (hu : UInv o A subOf s) (hu' : UInv o A' subOf' s') :
    (stepState o m g A s = none ∧ stepState o m' g' A' s' = none) ∨
    ∃ r r' S₂, stepState o m g A s = some r ∧ stepState o m' g' A' s' = some r' ∧ StRel π πi o A S₂ r r' :=
  step_relabel c S s s' h subOf subOf' hu hu'

theorem iterate_relabel (c : RCtx π πi o m m' g g' A A') (n : Nat) :
    ∀ (S : Nat → Nat → Prop) (s s' : FState) (subOf subOf' : Nat → List Nat),
      StRel π πi o A S s s' → UInv o A subOf s → UInv o A' subOf' s' →
      ∃ S₂, StRel π πi o A S₂ (iterate o m g A n s) (iterate o m' g' A' n s') := by
  induction n with
  | zero => intro S s s' _ _ h _ _; exact ⟨S, h⟩
  | succ n ih =>
    intro S s s' subOf subOf' h hu hu'
    rcases step_relabel c S s s' h subOf subOf' hu hu' with ⟨h1, h2⟩ | ⟨r, r', S₂, h1, h2, hr⟩
    · refine ⟨S, ?_⟩
      simp only [iterate, h1, h2]
      exact h
    · obtain ⟨sub2, hu2⟩ := uinv_step o m g A subOf s r hu h1
      obtain ⟨sub2', hu2'⟩ := uinv_step o m' g' A' subOf' s' r' hu' h2
      simp only [iterate, h1, h2]
      exact ih S₂ r r' sub2 sub2' hr hu2 hu2'

/-- **the runs correspond**: same error, or final states related by the simulation relation -/
theorem runFp_relabel_core (π πi : Nat → Nat) (hl : ∀ a, πi (π a) = a) (hr : ∀ a, π (πi a) = a) (o : Opts) (m : MolG)
    (hm : (m.atoms.map (·.idx)).Nodup) (g g' : Geo)
    (hw : ∀ k a b, g'.within k (π a) (π b) = g.within k a b) (hs : o.stereo = true → StereoSym π g g') :
    (∀ e, runFp o m g = .error e → runFp o (m.relabel π) g' = .error e) ∧
    (∀ s, runFp o m g = .ok s → ∃ s', runFp o (m.relabel π) g' = .ok s' ∧
      ∃ S, StRel π πi o (retained o m) S s s') := by
  have hinj : ∀ a b, π a = π b → a = b := fun _ _ e => Function.LeftInverse.injective hl e
  have c : RCtx π πi o m (m.relabel π) g g' (retained o m) (retained o (m.relabel π)) :=
    ⟨hl, hr, retained_relabel o m π, retained_nodup o m hm, hw, conn_relabel π hinj m, bonded_relabel π hinj m,
      initIdent_relabel π hinj o m hm, hs⟩
  rewrite [runFp_eq_G, runFp_eq_G]
  refine runFpG_rel (fun s s' => ∃ S, StRel π πi o (retained o m) S s s') _ _ o m (m.relabel π)
    (relabel_bonds_any m π) c.length_eq (fun n => ?_)
  obtain ⟨sub0, hu0⟩ := uinv_init o m (retained o m)
  obtain ⟨sub0', hu0'⟩ := uinv_init o (m.relabel π) (retained o (m.relabel π))
  rewrite [← iterate_eq_G, ← iterate_eq_G]
  exact iterate_relabel c n _ _ _ sub0 sub0' (init_relabel c) hu0 hu0'

theorem resolveLevel_relabel {S : Nat → Nat → Prop} {s s' : FState} (h : StRel π πi o A S s s') (req : Option Int) :
    resolveLevel s' req = resolveLevel s req := by
  unfold resolveLevel FState.currentLevel
  rw [h.genLen, h.lsLen]

theorem shellsAt_relabel (hl : ∀ a, πi (π a) = a) {S : Nat → Nat → Prop} {s s' : FState}
    (h : StRel π πi o A S s s') (req : Option Int) (mask : List Nat) :
    PermRel (IdSubRel π πi) (shellsAt s req mask) (shellsAt s' req (mask.map π)) := by
  unfold shellsAt
  rewrite [resolveLevel_relabel h]
  apply (h.ls _).filter
  intro x _ x' _ hx
  refine congrArg not ?_
  rewrite [any_congr_set x'.sub (x.sub.map π) _ hx.2.mem_right, List.any_map]
  exact any_congr_mem _ _ _ (fun y _ =>
    (contains_map_of_inj π mask y (fun _ _ e => Function.LeftInverse.injective hl e)).symm)

/-- **equal fingerprints** from corresponding states, for every requested level, folding and mask -/
theorem fingerprintAt_relabel (hl : ∀ a, πi (π a) = a) {S : Nat → Nat → Prop} {s s' : FState}
    (h : StRel π πi o A S s s') (req : Option Int) (bits : Option Nat) (mask : List Nat) :
    fingerprintAt o s' req bits (mask.map π) = fingerprintAt o s req bits mask := by
  unfold fingerprintAt
  have hp := (shellsAt_relabel hl h req mask).map_perm
    (fun x => (Gen.signedToUnsigned x.ident (Gen.BITS : Nat)).toNat)
    (fun x => (Gen.signedToUnsigned x.ident (Gen.BITS : Nat)).toNat)
    (fun x x' hx => by rw [hx.1])
  dsimp only
  rw [fromIndices_perm _ _ _ hp]

/-- the per-level statement in the form of the property: identifiers with substructures mapped back -/
theorem levelShells_relabel {S : Nat → Nat → Prop} {s s' : FState} (h : StRel π πi o A S s s') (k : Nat) :
    ((s'.levelShells.getD k []).map (fun x => (x.ident, uniq (x.sub.map πi)))).Perm
      ((s.levelShells.getD k []).map (fun x => (x.ident, x.sub))) := by
  apply (h.ls k).map_perm (fun x => (x.ident, x.sub)) (fun x => (x.ident, uniq (x.sub.map πi)))
  intro x x' hx
  rw [hx.1, ← hx.2.2]

end sim

end E3fpVerif
