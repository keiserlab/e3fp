import E3fpVerif.Model.Fprint
import E3fpVerif.Lemmas.Uniq
import E3fpVerif.Lemmas.FpAux
import E3fpVerif.Lemmas.ExceptGuard
/-!
# Lemmas behind C07: `Fp.fold` in closed form
-/
namespace E3fpVerif

/-- the fingerprint an accepted `fold` returns -/
def folded (f : Fp) (b m : Nat) (cm : CountsMethod) : Fp :=
  { kind := f.kind, bits := b, level := f.level, idx := uniq (f.idx.map (foldIdx m f.bits b)),
    cnt := match f.kind with
      | .bit => []
      | k => (uniq (f.idx.map (foldIdx m f.bits b))).map
          (fun j => (j, coerce k (combine cm ((preimage f b m j).map f.count)))) }

theorem fold_eq (f : Fp) (b m : Nat) (cm : CountsMethod) :
    f.fold b m cm =
      if b > f.bits then .error .bitsValue
      else if !(isPow2Multiple f.bits b) then .error .bitsValue
      else if m ≠ 0 ∧ m ≠ 1 then .error .option
      else .ok (folded f b m cm) := rfl

theorem fold_ok_iff (f g : Fp) (b m : Nat) (cm : CountsMethod) :
    f.fold b m cm = .ok g ↔
      b ≤ f.bits ∧ isPow2Multiple f.bits b = true ∧ (m = 0 ∨ m = 1) ∧ folded f b m cm = g := by
  rw [fold_eq, ite_error_eq_ok, ite_error_eq_ok, ite_error_eq_ok, Except.ok.injEq, Nat.not_lt,
    Bool.not_eq_true', Bool.not_eq_false, Decidable.not_and_iff_not_or_not, Ne, Decidable.not_not,
    Decidable.not_not]

theorem folded_of_ne_bit (f : Fp) (b m : Nat) (cm : CountsMethod) (hk : f.kind ≠ .bit) :
    folded f b m cm = Fp.tab f.kind b f.level (uniq (f.idx.map (foldIdx m f.bits b)))
      (fun j => coerce f.kind (combine cm ((preimage f b m j).map f.count))) := by
  unfold folded Fp.tab
  cases hf : f.kind
  · exact absurd hf hk
  · rfl
  · rfl

theorem folded_of_bit (f : Fp) (b m : Nat) (cm : CountsMethod) (hk : f.kind = .bit) :
    folded f b m cm = ⟨.bit, b, f.level, uniq (f.idx.map (foldIdx m f.bits b)), []⟩ := by
  unfold folded; rw [hk]

theorem fold_level (f g : Fp) (b m : Nat) (cm : CountsMethod) (h : f.fold b m cm = .ok g) : g.level = f.level := by
  obtain ⟨_, _, _, rfl⟩ := (fold_ok_iff f g b m cm).1 h
  rfl

theorem fold_cnt_of_bit (f g : Fp) (b m : Nat) (cm : CountsMethod) (h : f.fold b m cm = .ok g)
    (hk : g.kind = .bit) : g.cnt = [] := by
  obtain ⟨_, _, _, rfl⟩ := (fold_ok_iff f g b m cm).1 h
  rw [folded_of_bit f b m cm hk]

end E3fpVerif
