import E3fpVerif.Model.Db
import E3fpVerif.Lemmas.FpAux
/-!
# The dtype cast of a database (`castVal`): idempotent, its fixed points, and what it is on each kind
-/
namespace E3fpVerif

theorem castVal_idem (k : Kind) (v : Rat) : castVal k (castVal k v) = castVal k v := by
  cases k with
  | bit => by_cases h : v = 0 <;> simp [castVal, h]
  | count => exact truncQ_idem v
  | float => rfl

theorem castVal_zero (k : Kind) : castVal k 0 = 0 := by
  cases k with
  | bit => simp [castVal]
  | count => exact truncQ_intCast 0
  | float => rfl

/-- the values of a bit matrix that are stable under the cast are exactly 0 and 1 -/
theorem castVal_bit_stable (v : Rat) : castVal .bit v = v ↔ v = 0 ∨ v = 1 := by
  simp only [castVal]
  by_cases h : v = 0
  · simp [h]
  · simp only [h, if_false, false_or]
    exact eq_comm

/-- the values of a count matrix that are stable under the cast are exactly the integers -/
theorem castVal_count_stable (v : Rat) : castVal .count v = v ↔ ∃ n : Int, v = (n : Rat) :=
  truncQ_fixed_iff v

theorem castVal_bit_ne_zero (v : Rat) : castVal .bit v ≠ 0 ↔ v ≠ 0 := by
  unfold castVal
  by_cases h : v = 0 <;> simp [h]

/-- off the bit kind the database's cast is the fingerprint's own coercion of counts -/
theorem castVal_eq_coerce (k : Kind) (hk : k ≠ .bit) (v : Rat) : castVal k v = coerce k v := by
  cases k with
  | bit => exact absurd rfl hk
  | count => rfl
  | float => rfl

end E3fpVerif
