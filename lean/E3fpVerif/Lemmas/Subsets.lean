import E3fpVerif.Lemmas.Uniq
/-!
# Counting: a duplicate-free list of ascending sublists of `atoms` has at most `2^|atoms|` entries

They are all members of the explicit enumeration `allSubs atoms`, which has `2^|atoms|` entries.
-/
namespace E3fpVerif

/-- `p` is a substructure over `atoms`: strictly ascending, members among `atoms` -/
def SubOf (atoms : List Nat) (p : List Nat) : Prop := StrictAsc p ∧ ∀ y ∈ p, y ∈ atoms

/-- every strictly ascending list over `atoms`: those over the tail, without and with the head -/
def allSubs : List Nat → List (List Nat)
  | [] => [[]]
  | a :: as => allSubs as ++ (allSubs as).map (insertU a)

theorem length_allSubs (atoms : List Nat) : (allSubs atoms).length = 2 ^ atoms.length := by
  induction atoms with
  | nil => rfl
  | cons a as ih =>
    dsimp only [allSubs]
    rw [List.length_append, List.length_map, ih, List.length_cons, Nat.pow_succ, Nat.mul_two]

theorem mem_allSubs (atoms p : List Nat) (h : SubOf atoms p) : p ∈ allSubs atoms := by
  induction atoms generalizing p with
  | nil =>
    rewrite [List.eq_nil_iff_forall_not_mem.2 fun y hy => nomatch h.2 y hy]
    exact List.mem_singleton_self _
  | cons a as ih =>
    have hq : p.filter (· != a) ∈ allSubs as :=
      ih _ ⟨h.1.filter _, fun y hy => by
        rewrite [List.mem_filter] at hy
        exact (List.mem_cons.1 (h.2 y hy.1)).resolve_left (bne_iff_ne.1 hy.2)⟩
    dsimp only [allSubs]
    rewrite [List.mem_append]
    by_cases ha : a ∈ p
    · refine Or.inr (List.mem_map.2 ⟨_, hq, ?_⟩)
      refine strictAsc_ext _ _ (strictAsc_insertU a _ (h.1.filter _)) h.1 fun x => ?_
      rewrite [mem_insertU, List.mem_filter]
      by_cases hx : x = a
      · simp [hx, ha]
      · simp [hx]
    · rewrite [List.filter_eq_self.2 fun y hy => bne_iff_ne.2 fun (e : y = a) => ha (e ▸ hy)] at hq
      exact Or.inl hq

theorem card_subsets (atoms : List Nat) (L : List (List Nat)) (hn : L.Nodup)
    (h : ∀ p ∈ L, SubOf atoms p) : L.length ≤ 2 ^ atoms.length :=
  length_allSubs atoms ▸ hn.length_le_of_subset fun p hp => mem_allSubs atoms p (h p hp)

end E3fpVerif
