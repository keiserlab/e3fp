import E3fpVerif.Lemmas.RelabelAux
import Mathlib.Data.List.Perm.Basic
import Mathlib.Data.List.Nodup
/-!
# Lists that correspond elementwise after a permutation

`PermRel R l l'`: there is a bijection between the positions of `l` and `l'` along which `R` holds.
Plus fact (D) about the duplicate-substructure filter: run on two candidate lists that correspond
(same identifiers, corresponding substructures) and are both sorted by identifier, it accepts
corresponding lists, whatever the order among candidates with equal identifiers.
-/
namespace E3fpVerif.Rl
open E3fpVerif

section PermRel
variable {α β γ ι ι' : Type}

def PermRel (R : α → β → Prop) (l : List α) (l' : List β) : Prop :=
  ∃ l'', l''.Perm l' ∧ List.Forall₂ R l l''

theorem PermRel.nil (R : α → β → Prop) : PermRel R [] [] := ⟨[], List.Perm.refl _, List.Forall₂.nil⟩

theorem forall₂_mem {R : α → β → Prop} {l : List α} {l' : List β} (h : List.Forall₂ R l l') :
    List.Forall₂ (fun x x' => R x x' ∧ x ∈ l ∧ x' ∈ l') l l' :=
  List.forall₂_iff_zip.2 ⟨h.length_eq, fun hab =>
    ⟨List.forall₂_zip h hab, (List.of_mem_zip hab).1, (List.of_mem_zip hab).2⟩⟩

theorem PermRel.mono {R R' : α → β → Prop} {l : List α} {l' : List β}
    (h : ∀ x x', R x x' → R' x x') (hr : PermRel R l l') : PermRel R' l l' := by
  obtain ⟨l'', hp, hf⟩ := hr
  exact ⟨l'', hp, hf.imp h⟩

theorem PermRel.length_eq {R : α → β → Prop} {l : List α} {l' : List β} (h : PermRel R l l') :
    l.length = l'.length := by
  obtain ⟨l'', hp, hf⟩ := h
  rw [hf.length_eq, hp.length_eq]

theorem PermRel.append {R : α → β → Prop} {l1 l2 : List α} {l1' l2' : List β}
    (h1 : PermRel R l1 l1') (h2 : PermRel R l2 l2') : PermRel R (l1 ++ l2) (l1' ++ l2') := by
  obtain ⟨m1, hp1, hf1⟩ := h1
  obtain ⟨m2, hp2, hf2⟩ := h2
  exact ⟨m1 ++ m2, hp1.append hp2, List.rel_append hf1 hf2⟩

theorem PermRel.perm_left {R : α → β → Prop} {l1 l2 : List α} {l' : List β}
    (hp : l1.Perm l2) (h : PermRel R l1 l') : PermRel R l2 l' := by
  obtain ⟨l'', hp', hf⟩ := h
  obtain ⟨w, hw, hwp⟩ := List.perm_comp_forall₂ hp.symm hf
  exact ⟨w, hwp.trans hp', hw⟩

theorem PermRel.perm_right {R : α → β → Prop} {l : List α} {l1' l2' : List β}
    (hp : l1'.Perm l2') (h : PermRel R l l1') : PermRel R l l2' := by
  obtain ⟨l'', hp', hf⟩ := h
  exact ⟨l'', hp'.trans hp, hf⟩

theorem PermRel.symm {R : α → β → Prop} {l : List α} {l' : List β} (h : PermRel R l l') :
    PermRel (fun x' x => R x x') l' l := by
  obtain ⟨l'', hp, hf⟩ := h
  obtain ⟨w, hw, hwp⟩ := List.perm_comp_forall₂ hp.symm hf.flip
  exact ⟨w, hwp, hw⟩

theorem PermRel.exists_right {R : α → β → Prop} {l : List α} {l' : List β} (h : PermRel R l l') :
    ∀ x ∈ l, ∃ x' ∈ l', R x x' := by
  obtain ⟨l'', hp, hf⟩ := h
  intro x hx
  obtain ⟨i, hi, rfl⟩ := List.getElem_of_mem hx
  exact ⟨l''[i]'(hf.length_eq ▸ hi), hp.mem_iff.1 (List.getElem_mem _), hf.get hi _⟩

theorem PermRel.exists_left {R : α → β → Prop} {l : List α} {l' : List β} (h : PermRel R l l') :
    ∀ x' ∈ l', ∃ x ∈ l, R x x' :=
  h.symm.exists_right

theorem PermRel.filter {R : α → β → Prop} {l : List α} {l' : List β} (p : α → Bool) (q : β → Bool)
    (hpq : ∀ x ∈ l, ∀ x' ∈ l', R x x' → p x = q x') (h : PermRel R l l') :
    PermRel R (l.filter p) (l'.filter q) := by
  obtain ⟨l'', hp, hf⟩ := h
  refine ⟨l''.filter q, hp.filter q, ?_⟩
  have := List.rel_filter (R := fun x x' => R x x' ∧ x ∈ l ∧ x' ∈ l'') (p := p) (q := q) ?_
    (forall₂_mem hf)
  · exact this.imp (fun _ _ h => h.1)
  · rintro x x' ⟨hR, hx, hx'⟩
    simp only [hpq x hx x' (hp.mem_iff.1 hx') hR]

theorem PermRel.any_eq {R : α → β → Prop} {l : List α} {l' : List β} (p : α → Bool) (q : β → Bool)
    (hpq : ∀ x x', R x x' → p x = q x') (h : PermRel R l l') : l.any p = l'.any q := by
  rewrite [Bool.eq_iff_iff, List.any_eq_true, List.any_eq_true]
  constructor
  · rintro ⟨x, hx, hpx⟩
    obtain ⟨x', hx', hR⟩ := h.exists_right x hx
    exact ⟨x', hx', (hpq x x' hR).symm.trans hpx⟩
  · rintro ⟨x', hx', hqx⟩
    obtain ⟨x, hx, hR⟩ := h.exists_left x' hx'
    exact ⟨x, hx, (hpq x x' hR).trans hqx⟩

theorem PermRel.all_eq {R : α → β → Prop} {l : List α} {l' : List β} (p : α → Bool) (q : β → Bool)
    (hpq : ∀ x x', R x x' → p x = q x') (h : PermRel R l l') : l.all p = l'.all q := by
  rw [List.all_eq_not_any_not, List.all_eq_not_any_not,
    h.any_eq (fun x => !p x) (fun x' => !q x') (fun x x' hR => by rw [hpq x x' hR])]

theorem PermRel.map_perm {R : α → β → Prop} {l : List α} {l' : List β} (f : α → γ) (f' : β → γ)
    (hf : ∀ x x', R x x' → f x = f' x') (h : PermRel R l l') : (l'.map f').Perm (l.map f) := by
  obtain ⟨l'', hp, hfa⟩ := h
  have : l.map f = l''.map f' := by
    rewrite [← List.forall₂_eq_eq_eq, List.forall₂_map_left_iff, List.forall₂_map_right_iff]
    exact hfa.imp hf
  rewrite [this]
  exact (hp.map f').symm

theorem PermRel.of_map {R : α → β → Prop} (A : List ι) (A' : List ι') (π : ι → ι') (hA : A'.Perm (A.map π))
    (f : ι → α) (f' : ι' → β) (h : ∀ a ∈ A, R (f a) (f' (π a))) : PermRel R (A.map f) (A'.map f') := by
  refine ⟨(A.map π).map f', (hA.map f').symm, ?_⟩
  rewrite [List.forall₂_map_left_iff, List.map_map, List.forall₂_map_right_iff]
  exact List.forall₂_same.2 h

/-- a relation that is a bijection between the members of two duplicate-free lists: send every `x`
to a partner; the images are duplicate free and exhaust `l'` -/
theorem PermRel.of_biUnique {R : α → β → Prop} {l : List α} {l' : List β}
    (hn : l.Nodup) (hn' : l'.Nodup)
    (hbi : ∀ x ∈ l, ∀ y ∈ l, ∀ x' ∈ l', ∀ y' ∈ l', R x x' → R y y' → (x = y ↔ x' = y'))
    (hr : ∀ x ∈ l, ∃ x' ∈ l', R x x') (hl : ∀ x' ∈ l', ∃ x ∈ l, R x x') : PermRel R l l' := by
  choose f hfm hfR using hr
  refine ⟨l.pmap f (fun _ h => h), (List.perm_ext_iff_of_nodup ?_ hn').2 ?_, ?_⟩
  · exact hn.pmap (fun x hx y hy e => (hbi x hx y hy _ (hfm x hx) _ (hfm y hy) (hfR x hx) (hfR y hy)).2 e)
  · intro y
    rewrite [List.mem_pmap]
    constructor
    · rintro ⟨x, hx, rfl⟩; exact hfm x hx
    · intro hy
      obtain ⟨x, hx, hR⟩ := hl y hy
      exact ⟨x, hx, (hbi x hx x hx _ (hfm x hx) y hy (hfR x hx) hR).1 rfl⟩
  · have h : List.Forall₂ R (l.attach.map Subtype.val) (l.attach.map fun x => f x.1 x.2) := by
      rewrite [List.forall₂_map_left_iff, List.forall₂_map_right_iff]
      exact List.forall₂_same.2 (fun x _ => hfR x.1 x.2)
    rewrite [List.pmap_eq_map_attach]
    rwa [List.attach_map_subtype_val] at h

end PermRel

end E3fpVerif.Rl

-- outside `Rl`, so that `dedupSpec` is the base layer's and its lemmas of `Lemmas/Fprinter.lean` apply as they are
namespace E3fpVerif
open Rl

/-- one direction of totality for fact (D): the partner of an accepted shell's substructure is accepted
on the other side (`dedupSpec_covers`), and both carry the least identifier of their substructure -/
theorem dedupSpec_total (Rs : List Nat → List Nat → Prop)
    (hRs : ∀ p q p' q', Rs p p' → Rs q q' → (p = q ↔ p' = q'))
    (past past' : List (List Nat)) (hpast : ∀ p p', Rs p p' → (p ∈ past ↔ p' ∈ past'))
    (cands cands' : List GShell)
    (hc : PermRel (fun x x' => x'.ident = x.ident ∧ Rs x.sub x'.sub) cands cands')
    (hs : cands.Pairwise (fun a b => a.ident ≤ b.ident))
    (hs' : cands'.Pairwise (fun a b => a.ident ≤ b.ident)) :
    ∀ x ∈ dedupSpec past cands, ∃ x' ∈ dedupSpec past' cands', x'.ident = x.ident ∧ Rs x.sub x'.sub := by
  intro x hx
  obtain ⟨x0, hx0, hx0i, hx0s⟩ := hc.exists_right x ((dedupSpec_sublist past cands).subset hx)
  rcases List.mem_append.1 (dedupSpec_covers past' cands' x0 hx0) with h | h
  · exact absurd ((hpast _ _ hx0s).2 h) (dedupSpec_not_past _ _ x hx)
  · obtain ⟨x', hx', hx's⟩ := List.mem_map.1 h
    obtain ⟨z, hz, hzi, hzs⟩ := hc.exists_left x' ((dedupSpec_sublist past' cands').subset hx')
    have h1 : x.ident ≤ x'.ident :=
      hzi ▸ dedupSpec_min past cands hs x hx z hz ((hRs _ _ _ _ hzs hx0s).2 hx's)
    have h2 : x'.ident ≤ x.ident := hx0i ▸ dedupSpec_min past' cands' hs' x' hx' x0 hx0 hx's.symm
    exact ⟨x', hx', Int.le_antisymm h2 h1, hx's ▸ hx0s⟩
end E3fpVerif

namespace E3fpVerif.Rl
open E3fpVerif

/-- **(D)** corresponding candidate lists, each sorted by identifier, are filtered to corresponding
lists; `Rs` is any partial bijection between substructures under which `past` and `past'` agree -/
theorem dedupSpec_permRel (Rs : List Nat → List Nat → Prop)
    (hRs : ∀ p q p' q', Rs p p' → Rs q q' → (p = q ↔ p' = q'))
    (past past' : List (List Nat)) (hpast : ∀ p p', Rs p p' → (p ∈ past ↔ p' ∈ past'))
    (cands cands' : List GShell)
    (hc : PermRel (fun x x' => x'.ident = x.ident ∧ Rs x.sub x'.sub) cands cands')
    (hs : cands.Pairwise (fun a b => a.ident ≤ b.ident))
    (hs' : cands'.Pairwise (fun a b => a.ident ≤ b.ident)) :
    PermRel (fun x x' => x'.ident = x.ident ∧ Rs x.sub x'.sub) (dedupSpec past cands) (dedupSpec past' cands') := by
  rewrite [dedupSpec_eq]
  have hnd := dedupSpec_nodup past cands
  have hnd' := dedupSpec_nodup past' cands'
  apply PermRel.of_biUnique hnd.of_map hnd'.of_map
  · intro x hx y hy x' hx' y' hy' hxx' hyy'
    constructor
    · intro he
      exact inj_of_nodup_map _ _ hnd' _ hx' _ hy' ((hRs _ _ _ _ hxx'.2 hyy'.2).1 (he ▸ rfl))
    · intro he
      exact inj_of_nodup_map _ _ hnd _ hx _ hy ((hRs _ _ _ _ hxx'.2 hyy'.2).2 (he ▸ rfl))
  · exact dedupSpec_total Rs hRs past past' hpast cands cands' hc hs hs'
  · intro x' hx'
    obtain ⟨x, hx, hxi, hxs⟩ := dedupSpec_total (fun p' p => Rs p p')
      (fun p' q' p q h1 h2 => (hRs p q p' q' h1 h2).symm) past' past
      (fun p' p h => (hpast p p' h).symm) cands' cands (hc.symm.mono (fun _ _ h => ⟨h.1.symm, h.2⟩)) hs' hs x' hx'
    exact ⟨x, hx, hxi.symm, hxs⟩

end E3fpVerif.Rl
