import E3fpVerif.Lemmas.RealScalar
import E3fpVerif.Lemmas.FirstUnique
import E3fpVerif.Lemmas.ListAux
/-!
# Rigid motions of `V3 ℝ` and how every function of `Model/Geom.lean` transforms under them

`pickZ` and `stereoIndicators` are first put in closed form; `Lemmas/StereoSym.lean` starts from the same forms.
-/
namespace E3fpVerif
namespace Rigid
open RealScalar E3fpVerif.V3

/-- a real 3×3 matrix, written out -/
structure Mat3 where
  r11 : ℝ
  r12 : ℝ
  r13 : ℝ
  r21 : ℝ
  r22 : ℝ
  r23 : ℝ
  r31 : ℝ
  r32 : ℝ
  r33 : ℝ

/-- matrix times vector -/
def rot (R : Mat3) (v : V3 ℝ) : V3 ℝ :=
  ⟨R.r11 * v.x + R.r12 * v.y + R.r13 * v.z,
   R.r21 * v.x + R.r22 * v.y + R.r23 * v.z,
   R.r31 * v.x + R.r32 * v.y + R.r33 * v.z⟩

/-- `Rᵀ R = 1`: the columns are orthonormal -/
structure Orth (R : Mat3) : Prop where
  h11 : R.r11 * R.r11 + R.r21 * R.r21 + R.r31 * R.r31 = 1
  h22 : R.r12 * R.r12 + R.r22 * R.r22 + R.r32 * R.r32 = 1
  h33 : R.r13 * R.r13 + R.r23 * R.r23 + R.r33 * R.r33 = 1
  h12 : R.r11 * R.r12 + R.r21 * R.r22 + R.r31 * R.r32 = 0
  h13 : R.r11 * R.r13 + R.r21 * R.r23 + R.r31 * R.r33 = 0
  h23 : R.r12 * R.r13 + R.r22 * R.r23 + R.r32 * R.r33 = 0

def det (R : Mat3) : ℝ :=
  R.r11 * (R.r22 * R.r33 - R.r23 * R.r32) - R.r12 * (R.r21 * R.r33 - R.r23 * R.r31)
    + R.r13 * (R.r21 * R.r32 - R.r22 * R.r31)

/-- rotate (or reflect), then translate -/
noncomputable def move (R : Mat3) (t : V3 ℝ) (v : V3 ℝ) : V3 ℝ := V3.add (rot R v) t

/-! ## linearity -/

theorem rot_sub (R : Mat3) (a b : V3 ℝ) : rot R (V3.sub a b) = V3.sub (rot R a) (rot R b) := by
  simp only [rot, V3.sub, sub_def, mul_sub, sub_add_sub_comm]

theorem rot_add (R : Mat3) (a b : V3 ℝ) : rot R (V3.add a b) = V3.add (rot R a) (rot R b) := by
  simp only [rot, V3.add, add_def, V3.mk.injEq]
  refine ⟨?_, ?_, ?_⟩ <;> ring

theorem rot_smul (R : Mat3) (c : ℝ) (a : V3 ℝ) : rot R (V3.smul c a) = V3.smul c (rot R a) := by
  simp only [rot, V3.smul, mul_def, ← mul_assoc, ← add_mul]

theorem rot_sdiv (R : Mat3) (a : V3 ℝ) (c : ℝ) : rot R (V3.sdiv a c) = V3.sdiv (rot R a) c := by
  simp only [rot, V3.sdiv, div_def, ← mul_div_assoc, ← add_div]

theorem rot_vzero (R : Mat3) : rot R (V3.vzero : V3 ℝ) = V3.vzero := by
  simp only [rot, V3.vzero, zero_def, mul_zero, add_zero]

theorem sub_move (R : Mat3) (t a b : V3 ℝ) :
    V3.sub (move R t a) (move R t b) = rot R (V3.sub a b) := by
  rewrite [rot_sub]
  simp only [move, V3.sub, V3.add, sub_def, add_def, add_sub_add_right_eq_sub]

/-! ## metric invariants -/

theorem dot_rot {R : Mat3} (hR : Orth R) (u v : V3 ℝ) :
    V3.dot (rot R u) (rot R v) = V3.dot u v := by
  obtain ⟨h11, h22, h33, h12, h13, h23⟩ := hR
  simp only [V3.dot, rot, add_def, mul_def]
  linear_combination (u.x * v.x) * h11 + (u.y * v.y) * h22 + (u.z * v.z) * h33
    + (u.x * v.y + u.y * v.x) * h12 + (u.x * v.z + u.z * v.x) * h13 + (u.y * v.z + u.z * v.y) * h23

theorem norm_rot {R : Mat3} (hR : Orth R) (u : V3 ℝ) : V3.norm (rot R u) = V3.norm u := by
  simp only [V3.norm, dot_rot hR]

theorem dist_rot {R : Mat3} (hR : Orth R) (u v : V3 ℝ) :
    V3.dist (rot R u) (rot R v) = V3.dist u v := by
  simp only [V3.dist, ← rot_sub, dot_rot hR]

theorem dist_move {R : Mat3} (hR : Orth R) (t u v : V3 ℝ) :
    V3.dist (move R t u) (move R t v) = V3.dist u v := by
  simp only [V3.dist, sub_move, dot_rot hR]

/-- multiplicativity of the determinant, in triple-product form; no orthogonality needed -/
theorem triple_rot (R : Mat3) (n u v : V3 ℝ) :
    V3.dot (rot R n) (V3.cross (rot R u) (rot R v)) = det R * V3.dot n (V3.cross u v) := by
  -- with the 18 entries as variables `ring` has plain atoms to compare
  cases R; cases n; cases u; cases v
  simp only [V3.dot, V3.cross, rot, det, add_def, mul_def, sub_def]
  ring

theorem isZero_rot {R : Mat3} (hR : Orth R) (u : V3 ℝ) :
    V3.isZero (rot R u) = V3.isZero u := by
  rw [Bool.eq_iff_iff, isZero_iff_dot_self, isZero_iff_dot_self, dot_rot hR]

theorem asUnit_rot {R : Mat3} (hR : Orth R) (u : V3 ℝ) :
    V3.asUnit (rot R u) = rot R (V3.asUnit u) := by
  simp only [V3.asUnit, dot_rot hR, apply_ite (rot R), rot_sdiv]

theorem projectToPlane_rot {R : Mat3} (hR : Orth R) (v n : V3 ℝ) :
    V3.projectToPlane (rot R v) (rot R n) = rot R (V3.projectToPlane v n) := by
  simp only [V3.projectToPlane, asUnit_rot hR, dot_rot hR, rot_sub, rot_smul]

theorem angle_rot {R : Mat3} (hR : Orth R) (v ref : V3 ℝ) :
    V3.angle (rot R v) (rot R ref) = V3.angle v ref := by
  simp only [V3.angle, asUnit_rot hR, dot_rot hR, isZero_rot hR]

theorem signedAngle_rot {R : Mat3} (hR : Orth R) (hdet : det R = 1) (v ref n : V3 ℝ) :
    V3.signedAngle (rot R v) (rot R ref) (rot R n) = V3.signedAngle v ref n := by
  simp only [V3.signedAngle, asUnit_rot hR, dot_rot hR, isZero_rot hR, triple_rot, hdet, one_mul]

/-- under an improper isometry (`det R = -1`) the signed angle is the one measured against the
opposite normal: handedness flips, nothing else changes -/
theorem signedAngle_rot_improper {R : Mat3} (hR : Orth R) (hdet : det R = -1) (v ref n : V3 ℝ) :
    V3.signedAngle (rot R v) (rot R ref) (rot R n) = V3.signedAngle v ref (V3.smul (-1) n) := by
  simp only [V3.signedAngle, asUnit_rot hR, dot_rot hR, isZero_rot hR, triple_rot, hdet, dot_smul_left]

theorem foldl_add_rot (R : Mat3) (vs : List (V3 ℝ)) (acc : V3 ℝ) :
    (vs.map (rot R)).foldl V3.add (rot R acc) = rot R (vs.foldl V3.add acc) := by
  induction vs generalizing acc with
  | nil => rfl
  | cons a as ih => simp only [List.map_cons, List.foldl_cons, ← rot_add, ih]

theorem mean_rot (R : Mat3) (vs : List (V3 ℝ)) :
    V3.mean (vs.map (rot R)) = rot R (V3.mean vs) := by
  have h := foldl_add_rot R vs V3.vzero
  rewrite [rot_vzero] at h
  simp only [V3.mean, List.length_map, h, rot_sdiv]

/-! ## `pickY`, `pickZ` and `stereoIndicators` in closed form -/

theorem pickY_some_idx (keys : List (Nat × Int)) (cent : List (V3 ℝ)) (i : Nat) (h : firstUnique keys = some i) :
    pickY keys cent = some (cent.getD i V3.vzero, some i) := by
  unfold pickY; rw [h]

theorem pickY_none_two (keys : List (Nat × Int)) (cent : List (V3 ℝ)) (h : firstUnique keys = none)
    (h2 : keys.length = 2) : pickY keys cent = some (cent.getD 0 V3.vzero, some 0) := by
  unfold pickY; rewrite [h]; simp only [h2, if_true]

theorem pickY_none_mean (keys : List (Nat × Int)) (cent : List (V3 ℝ)) (h : firstUnique keys = none)
    (h2 : keys.length ≠ 2) :
    pickY keys cent = if Scalar.lt (V3.norm (V3.mean cent)) Scalar.yPrec then none else some (V3.mean cent, none) := by
  unfold pickY; rewrite [h]; simp only [h2, if_false]

/-- the tagged, sorted list inside `pickZRaw` -/
noncomputable def zSorted (cand : List (Nat × Int × V3 ℝ × ℝ)) : List (Nat × Nat × Int × Nat) :=
  sortByLt lt4 (cand.zipIdx.map (fun p => (Scalar.truncNat (Scalar.div p.1.2.2.2 Scalar.zPrec), p.1.1, p.1.2.1, p.2)))

theorem pickZRaw_eq (cand : List (Nat × Int × V3 ℝ × ℝ)) (y : V3 ℝ) :
    pickZRaw cand y = (firstUnique ((zSorted cand).map (fun t => (t.1, t.2.1)))).map (fun k => V3.projectToPlane
      ((cand.getD ((zSorted cand).getD k (0, 0, 0, 0)).2.2.2 (0, 0, V3.vzero, Scalar.zero)).2.2.1) y) := by
  unfold pickZRaw zSorted
  dsimp only
  generalize firstUnique (κ := Nat × Nat) _ = o
  cases o <;> rfl

theorem pickZRaw_singleton (c : Nat × Int × V3 ℝ × ℝ) (y : V3 ℝ) :
    pickZRaw [c] y = some (V3.projectToPlane c.2.2.1 y) := by
  have hs : zSorted [c] = [(Scalar.truncNat (Scalar.div c.2.2.2 Scalar.zPrec), c.1, c.2.1, 0)] := rfl
  rewrite [pickZRaw_eq, hs]
  simp only [List.map_cons, List.map_nil, firstUnique_singleton]
  rfl

/-- `pickZ` is `pickZRaw` followed by the guard against a (numerically) vanishing projection -/
theorem pickZ_eq_raw {α : Type} [Scalar α] (cand : List (Nat × Int × V3 α × α)) (y : V3 α) :
    pickZ cand y = (pickZRaw cand y).bind (fun z => if Scalar.lt (V3.norm z) Scalar.eps then none else some z) := by
  unfold pickZ
  cases pickZRaw cand y <;> rfl

theorem pickZ_eq_some_iff {α : Type} [Scalar α] (cand : List (Nat × Int × V3 α × α)) (y z : V3 α) :
    pickZ cand y = some z ↔ pickZRaw cand y = some z ∧ ¬ (Scalar.lt (V3.norm z) Scalar.eps = true) := by
  rewrite [pickZ_eq_raw]
  cases pickZRaw cand y with
  | none => simp only [Option.bind_none, reduceCtorEq, false_and]
  | some w =>
    rewrite [Option.bind_some, Option.ite_none_left_eq_some, Option.some.injEq, and_comm]
    exact and_congr_right fun e => by rw [e]

/-! ### `stereoIndicators`, cut into named pieces (each `rfl`-equal to the corresponding `let`) -/

noncomputable def laOf (cent : List (V3 ℝ)) (y : V3 ℝ) : List ℝ :=
  cent.map (fun v =>
    let a := Scalar.sub (Scalar.div Scalar.pi Scalar.two) (V3.angle v y)
    if Scalar.lt (Scalar.abs a) Scalar.eps then Scalar.zero else a)

noncomputable def candOf (nbrs : List (Nat × Int × V3 ℝ)) (overlap : List Bool) (yInd : Option Nat)
    (longAbs : List ℝ) : List (Nat × Int × V3 ℝ × ℝ) :=
  let n := nbrs.length
  let mask := (List.range n).map (fun i => !(overlap.getD i false) && (yInd != some i))
  (List.range n).filterMap (fun i =>
    if mask.getD i false then
      (nbrs[i]?).map (fun t => (t.1, t.2.1, t.2.2, longAbs.getD i Scalar.zero)) else none)

noncomputable def quadOf (n : Nat) (cent : List (V3 ℝ)) (y : V3 ℝ) (yInd : Option Nat) (longSign : List Int)
    (zopt : Option (V3 ℝ)) : List Int :=
  match zopt with
  | none => List.replicate n 0
  | some z =>
    (List.range n).map (fun i =>
      let v := cent.getD i V3.vzero
      let lat := V3.projectToPlane v y
      let afz := if yInd = some i then Scalar.zero else V3.signedAngle lat z y
      let latAngle := V3.mod2pi (Scalar.add afz (Scalar.div Scalar.pi (Scalar.ofNat 4)))
      let q : Int := 2 + (Scalar.truncNat (Scalar.div (Scalar.mul latAngle (Scalar.ofNat 4)) (Scalar.mul Scalar.two Scalar.pi)) : Nat)
      q * longSign.getD i 1)

noncomputable def stereoBody (nbrs : List (Nat × Int × V3 ℝ)) (y : V3 ℝ) (yInd : Option Nat) : List Int :=
  let n := nbrs.length
  let cent := nbrs.map (·.2.2)
  let overlap := cent.map V3.isZero
  let halfPi : ℝ := Scalar.div Scalar.pi Scalar.two
  let la := laOf cent y
  let longSign : List Int := la.map (fun a => let s := Scalar.sign a; if s = 0 then 1 else s)
  let longAbs := la.map Scalar.abs
  let cand := candOf nbrs overlap yInd longAbs
  let quad := quadOf n cent y yInd longSign (pickZ cand y)
  let cone : ℝ := Scalar.div Scalar.pi (Scalar.ofNat Gen.POLAR_CONE_DEN)
  (List.range n).map (fun i =>
    if overlap.getD i false then 0
    else if Scalar.lt (Scalar.sub halfPi (longAbs.getD i Scalar.zero)) cone then longSign.getD i 1
    else quad.getD i 0)

/-- with no neighbours both sides are `[]` whatever `pickY` returns, so the test `n = 0` is not carried along -/
theorem stereoIndicators_eq (nbrs : List (Nat × Int × V3 ℝ)) :
    stereoIndicators nbrs =
      match pickY (nbrs.map (fun t => (t.1, t.2.1))) (nbrs.map (·.2.2)) with
      | none => List.replicate nbrs.length 0
      | some (y, yInd) => stereoBody nbrs y yInd := by
  unfold stereoIndicators
  dsimp only
  by_cases h0 : nbrs.length = 0
  · rewrite [if_pos h0, List.length_eq_zero_iff.1 h0]
    generalize pickY (α := ℝ) _ _ = p
    cases p <;> rfl
  · rewrite [if_neg h0]
    cases pickY (nbrs.map (fun t => (t.1, t.2.1))) (nbrs.map (·.2.2)) with
    | none => rfl
    | some p =>
      dsimp only [stereoBody, laOf, candOf, quadOf]
      -- the two sides match on the `pickZ` result with different (equal) matchers
      generalize pickZ _ p.1 = zopt
      cases zopt <;> rfl

/-! ## the choice of axes and the stereo codes under a rotation -/

theorem pickY_rot {R : Mat3} (hR : Orth R) (keys : List (Nat × Int)) (cent : List (V3 ℝ)) :
    pickY keys (cent.map (rot R)) = (pickY keys cent).map (fun p => (rot R p.1, p.2)) := by
  unfold pickY
  cases firstUnique keys with
  | some i => simp only [getD_map_fix _ (rot_vzero R), Option.map_some]
  | none =>
    simp only [getD_map_fix _ (rot_vzero R), mean_rot, norm_rot hR, apply_ite (Option.map _), Option.map_some, Option.map_none]

/-- the map a rotation induces on `pickZ` candidates -/
def candMap (R : Mat3) (c : Nat × Int × V3 ℝ × ℝ) : Nat × Int × V3 ℝ × ℝ := (c.1, c.2.1, rot R c.2.2.1, c.2.2.2)

theorem pickZRaw_rot {R : Mat3} (hR : Orth R) (cand : List (Nat × Int × V3 ℝ × ℝ)) (y : V3 ℝ) :
    pickZRaw (cand.map (candMap R)) (rot R y) = (pickZRaw cand y).map (rot R) := by
  have hs : zSorted (cand.map (candMap R)) = zSorted cand := by
    unfold zSorted
    rewrite [List.zipIdx_map, List.map_map]
    rfl
  rewrite [pickZRaw_eq, pickZRaw_eq, hs, Option.map_map]
  refine congrArg (fun f => Option.map f _) (funext fun k => ?_)
  rewrite [Function.comp, getD_map_fix (candMap R) (d := (0, 0, vzero, Scalar.zero)) (congrArg (fun v => (0, 0, v, Scalar.zero)) (rot_vzero R)),
         ← projectToPlane_rot hR]
  rfl

/-- the guard of `pickZ` looks at the length of the projection only: it is invariant under every
orthogonal map (proper or not) -/
theorem pickZ_rot {R : Mat3} (hR : Orth R) (cand : List (Nat × Int × V3 ℝ × ℝ)) (y : V3 ℝ) :
    pickZ (cand.map (candMap R)) (rot R y) = (pickZ cand y).map (rot R) := by
  rewrite [pickZ_eq_raw, pickZ_eq_raw, pickZRaw_rot hR]
  cases pickZRaw cand y with
  | none => rfl
  | some z =>
    simp only [Option.map_some, Option.bind_some, norm_rot hR, apply_ite (Option.map _), Option.map_none]

def nbrMap (R : Mat3) (t : Nat × Int × V3 ℝ) : Nat × Int × V3 ℝ := (t.1, t.2.1, rot R t.2.2)

theorem laOf_rot {R : Mat3} (hR : Orth R) (cent : List (V3 ℝ)) (y : V3 ℝ) :
    laOf (cent.map (rot R)) (rot R y) = laOf cent y := by
  simp only [laOf, List.map_map, Function.comp_def, angle_rot hR]

theorem candOf_rot (R : Mat3) (nbrs : List (Nat × Int × V3 ℝ)) (overlap : List Bool) (yInd : Option Nat)
    (longAbs : List ℝ) :
    candOf (nbrs.map (nbrMap R)) overlap yInd longAbs = (candOf nbrs overlap yInd longAbs).map (candMap R) := by
  simp only [candOf, List.length_map, List.map_filterMap, List.getElem?_map, apply_ite (Option.map _), Option.map_map,
    Option.map_none]
  rfl

theorem quadOf_rot {R : Mat3} (hR : Orth R) (hdet : det R = 1) (n : Nat) (cent : List (V3 ℝ)) (y : V3 ℝ)
    (yInd : Option Nat) (longSign : List Int) (zopt : Option (V3 ℝ)) :
    quadOf n (cent.map (rot R)) (rot R y) yInd longSign (zopt.map (rot R)) = quadOf n cent y yInd longSign zopt := by
  cases zopt with
  | none => rfl
  | some z =>
    simp only [quadOf, Option.map_some, getD_map_fix _ (rot_vzero R), projectToPlane_rot hR, signedAngle_rot hR hdet]

theorem stereoIndicators_rot {R : Mat3} (hR : Orth R) (hdet : det R = 1) (nbrs : List (Nat × Int × V3 ℝ)) :
    stereoIndicators (nbrs.map (nbrMap R)) = stereoIndicators nbrs := by
  have hcent : (nbrs.map (nbrMap R)).map (·.2.2) = (nbrs.map (·.2.2)).map (rot R) := by
    simp only [List.map_map]; rfl
  have hkeys : (nbrs.map (nbrMap R)).map (fun t => (t.1, t.2.1)) = nbrs.map (fun t => (t.1, t.2.1)) := by
    simp only [List.map_map]; rfl
  have hov : ((nbrs.map (·.2.2)).map (rot R)).map V3.isZero = (nbrs.map (·.2.2)).map V3.isZero := by
    rewrite [List.map_map]
    exact List.map_congr_left fun v _ => isZero_rot hR v
  rewrite [stereoIndicators_eq, stereoIndicators_eq, hcent, hkeys, pickY_rot hR, List.length_map]
  cases pickY (nbrs.map (fun t => (t.1, t.2.1))) (nbrs.map (·.2.2)) with
  | none => rfl
  | some p =>
    simp only [Option.map_some, stereoBody, hcent, hov, laOf_rot hR, candOf_rot, pickZ_rot hR, quadOf_rot hR hdet,
      List.length_map]

end Rigid
end E3fpVerif
