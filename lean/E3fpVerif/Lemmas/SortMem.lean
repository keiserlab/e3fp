import E3fpVerif.Model.Geom
/-!
`mem_sortByLt` with the list before the element.  `Lemmas/SortBy.lean` states the same fact under the same name
with the element first, so this module and `Lemmas/SortBy.lean` cannot be imported together; nothing imports this one.
-/
namespace E3fpVerif

theorem mem_sortByLt {β : Type} (lt : β → β → Bool) (l : List β) (x : β) : x ∈ sortByLt lt l ↔ x ∈ l := by
  have ins (a : β) : ∀ s : List β, x ∈ insertBy lt a s ↔ x = a ∨ x ∈ s := by
    intro s
    induction s with
    | nil => simp [insertBy]
    | cons b bs ih =>
      unfold insertBy
      split
      · simp
      · simp only [List.mem_cons, ih]
        exact or_left_comm
  induction l with
  | nil => simp [sortByLt]
  | cons a as ih =>
    exact (ins a (sortByLt lt as)).trans ((or_congr_right ih).trans List.mem_cons.symm)

end E3fpVerif
