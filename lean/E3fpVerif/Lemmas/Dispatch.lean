import E3fpVerif.Model.MetricsDispatch
import E3fpVerif.Lemmas.FpRows
import E3fpVerif.Lemmas.Binary
import E3fpVerif.Lemmas.DbCols
import E3fpVerif.Lemmas.DbCast
/-!
# The dispatch of `metrics.__init__`: what the wrapper hands to the row measures

`checkItem` / `checkPair` / `metricDispatch` unfolded: a lone fingerprint next to a database becomes a
one-row database (`wrapDb`), databases are cast for the binary measures (`castRow`), and the result is
the matrix of `simRows` over `itemRows` (`metricDispatch_matrix`).  Then what `Props/C06.lean` assumes of a
fingerprint (`StoredAs`, `NoZero`, `NonnegFp`) and when it holds; empty rows (`simRows_nil`); the bit cast
(same support, a 0/1 row); `decEqExcept` for the evaluated witnesses.
-/
namespace E3fpVerif.C06L

/-! ## the dispatch unfolded -/

/-- the kind each measure casts databases to (`fp_type=` in `_check_item_pair`) -/
def measureCast : Measure → Option Kind
  | .tanimoto | .dice => some .bit
  | _ => none

/-- `astype` on one stored row -/
def castRow (k : Kind) (r : Row) : Row := r.map (fun p => (p.1, castVal k p.2))

/-- the one-row database a lone fingerprint is wrapped into -/
def wrapDb (k : Kind) (f : Fp) : Db :=
  { fpType := k, level := f.level, name := none, array := some [fpRow k f], bits := f.bits,
    fpNames := [none], namesMap := [(none, [0])], props := [] }

theorem add_single (k : Kind) (f : Fp) :
    (Db.new k f.level none).add [⟨f, none, []⟩] = (wrapDb k f, none) := by
  simp [Db.add, Db.new, Db.badLevel, Db.badBits, Db.badProps, Db.expectedBits, Db.expectedProps,
    Db.fpNum, Db.addOk, wrapDb, updateNamesMap, mapAppend]

/-- the cast of a database can only be refused by `from_array`'s column-length check -/
def Castable (t : Option Kind) (d : Db) : Prop :=
  match t with
  | none => True
  | some k => k = d.fpType ∨ ∀ c ∈ d.props, c.2.length = d.fpNames.length

/-- the rows of a database as the measure sees them -/
def dbRows (t : Option Kind) (d : Db) : List Row :=
  match t with
  | none => d.array.getD []
  | some k => if k = d.fpType then d.array.getD [] else (d.array.getD []).map (castRow k)

/-- the rows an operand contributes to the matrix form -/
def itemRows (t : Option Kind) : Item → List Row
  | .fp f => [fpRow (t.getD f.kind) f]
  | .db d => dbRows t d

def ItemCastable (t : Option Kind) : Item → Prop
  | .fp _ => True
  | .db d => Castable t d

def _root_.E3fpVerif.Item.isDb : Item → Bool
  | .fp _ => false
  | .db _ => true

theorem bits_db {d : Db} {a : List Row} (ha : d.array = some a) : (Item.db d).bits = some d.bits := by
  rewrite [Item.bits, ha]; rfl

/-- `force_db`: a lone fingerprint is wrapped, a database kept or cast; the rows are `itemRows` -/
theorem checkItem_force (t : Option Kind) (it : Item) (n : Nat) (hn : it.bits = some n)
    (hc : ItemCastable t it) :
    ∃ d', checkItem t true it = .ok (.db d') ∧ d'.array = some (itemRows t it) ∧ d'.bits = n := by
  cases it with
  | fp f =>
    exact ⟨wrapDb (t.getD f.kind) f, by simp only [checkItem, if_true, add_single], rfl, Option.some.inj hn⟩
  | db d =>
    cases ha : d.array with
    | none => simp only [Item.bits, ha, Option.map_none, reduceCtorEq] at hn
    | some a =>
      have hn' : d.bits = n := Option.some.inj ((bits_db ha).symm.trans hn)
      cases t with
      | none => exact ⟨d, rfl, by simp only [itemRows, dbRows, ha, Option.getD_some], hn'⟩
      | some k =>
        by_cases hk : k = d.fpType
        · exact ⟨d, by simp only [checkItem, if_pos hk],
            by simp only [itemRows, dbRows, if_pos hk, ha, Option.getD_some], hn'⟩
        · have hfa := fromArray_ok a d.bits d.fpNames k d.level d.name d.props (hc.resolve_left hk)
          refine ⟨(Db.fromArray a d.bits d.fpNames k d.level d.name d.props).1, ?_, ?_, ?_⟩
          · simp only [checkItem, if_neg hk, Db.asType, ha]
            rewrite [hfa]; rfl
          · rewrite [hfa]; simp only [itemRows, dbRows, if_neg hk, ha, Option.getD_some]; rfl
          · rewrite [hfa]; exact hn'

theorem checkPair_some (t : Option Kind) (a b : Item) :
    checkPair t a (some b) =
      if a.bits ≠ b.bits then .error .bitsValue
      else (checkItem t (a.isDb || b.isDb) a).bind fun a' =>
        (checkItem t (a.isDb || b.isDb) b).bind fun b' => .ok (a', b') := by
  unfold checkPair
  by_cases h : a.bits ≠ b.bits
  · simp only [if_pos h]; rfl
  · simp only [if_neg h]
    cases a <;> cases b <;> rfl

theorem checkPair_none (t : Option Kind) (a : Item) :
    checkPair t a none = (checkItem t a.isDb a).bind fun a' => .ok (a', a') := by
  unfold checkPair
  cases a <;> rfl

/-- what the final `match` of `metricDispatch` does with a checked pair -/
def finish (m : Measure) : Item × Item → Except Err (Sum Sim (List (List Sim)))
  | (.fp f, .fp g) => .ok (.inl (simFp m f g))
  | (.db x, .db y) =>
    .ok (.inr ((x.array.getD []).map (fun r => (y.array.getD []).map (fun s => simRows m x.bits r s))))
  | _ => .error .type

theorem metricDispatch_eq (m : Measure) (a : Item) (b : Option Item) :
    metricDispatch m a b = (checkPair (measureCast m) a b).bind (finish m) := by
  -- the `match` inside `metricDispatch` is another matcher constant than `measureCast`'s: `rw` needs it by name
  have e : metricDispatch.match_1 (fun _ => Option Kind) m (fun _ => some Kind.bit) (fun _ => some Kind.bit)
      (fun _ => none) = measureCast m := by cases m <;> rfl
  unfold metricDispatch
  rewrite [e]
  show (checkPair (measureCast m) a b).bind _ = _
  cases checkPair (measureCast m) a b with
  | error e => rfl
  | ok p =>
    obtain ⟨x, y⟩ := p
    cases x <;> cases y <;> rfl

/-- **the matrix forms**: as soon as one operand is a database the result is the matrix of the row
measure over the operands' rows (a lone fingerprint contributing its one wrapped row) -/
theorem metricDispatch_matrix (m : Measure) (a b : Item) (n : Nat)
    (ha : a.bits = some n) (hb : b.bits = some n) (hdb : a.isDb = true ∨ b.isDb = true)
    (ca : ItemCastable (measureCast m) a) (cb : ItemCastable (measureCast m) b) :
    metricDispatch m a (some b) =
      .ok (.inr ((itemRows (measureCast m) a).map (fun r =>
        (itemRows (measureCast m) b).map (fun s => simRows m n r s)))) := by
  obtain ⟨da, a1, a2, a3⟩ := checkItem_force (measureCast m) a n ha ca
  obtain ⟨db, b1, b2, _⟩ := checkItem_force (measureCast m) b n hb cb
  rewrite [metricDispatch_eq, checkPair_some, if_neg (fun h => h (ha.trans hb.symm)), Bool.or_eq_true_iff.2 hdb, a1, b1]
  simp only [Except.bind, finish, a2, a3, b2, Option.getD_some]

/-- `B=None` compares the operand with itself, whatever it is -/
theorem metricDispatch_none (m : Measure) (a : Item) : metricDispatch m a none = metricDispatch m a (some a) := by
  rewrite [metricDispatch_eq, metricDispatch_eq, checkPair_none, checkPair_some, if_neg (fun h => h rfl), Bool.or_self]
  cases checkItem (measureCast m) a.isDb a <;> rfl

/-! ## the row of a fingerprint in a database of kind `k` -/

/-- `f` is stored without loss in a matrix of kind `k` (`astype` changes none of its counts) -/
def StoredAs (k : Kind) (f : Fp) : Prop := ∀ i ∈ f.idx, castVal k (f.count i) = f.count i

/-- no explicit zero count on the indices -/
def NoZero (f : Fp) : Prop := ∀ i ∈ f.idx, f.count i ≠ 0

def NonnegFp (f : Fp) : Prop := ∀ i ∈ f.idx, 0 ≤ f.count i

theorem fpRow_cols (k : Kind) (f : Fp) : (fpRow k f).map Prod.fst = f.idx := map_fst_graph f.idx _

theorem sortedRow_fpRow (k : Kind) (f : Fp) (hf : f.WF) : SortedRow (fpRow k f) := by
  unfold SortedRow; rewrite [fpRow_cols]; exact hf.1

theorem fpRow_eq_cntRow (k : Kind) (f : Fp) (h : StoredAs k f) : fpRow k f = cntRow f := by
  unfold fpRow cntRow
  exact List.map_congr_left (fun i hi => by rw [h i hi])

/-! Stored without loss: a bit fingerprint in any kind (its counts are 1), a float fingerprint in its own, a
count fingerprint in its own when its counts are integers (the constructors make them so). -/

theorem storedAs_bit (k : Kind) (f : Fp) (h : f.kind = .bit) : StoredAs k f := by
  intro i hi
  rewrite [count_bit f h hi]
  cases k with
  | bit => exact (castVal_bit_stable _).2 (Or.inr rfl)
  | count => exact truncQ_intCast 1
  | float => rfl

theorem storedAs_own_float (f : Fp) (h : f.kind = .float) : StoredAs f.kind f := by
  intro i _; rewrite [h]; rfl

theorem storedAs_own_count (f : Fp) (h : f.kind = .count)
    (hint : ∀ i ∈ f.idx, ∃ n : Int, f.count i = (n : Rat)) : StoredAs f.kind f := by
  intro i hi
  rewrite [h]
  exact (castVal_count_stable _).2 (hint i hi)

theorem storedAs_float (f : Fp) : StoredAs .float f := fun _ _ => rfl

theorem noZero_bit (f : Fp) (h : f.kind = .bit) : NoZero f := by
  intro i hi; rewrite [count_bit f h hi]; decide

theorem nonneg_bit (f : Fp) (h : f.kind = .bit) : NonnegFp f := by
  intro i hi; rewrite [count_bit f h hi]; decide

theorem nonnegRow_cntRow (f : Fp) (h : NonnegFp f) : NonnegRow (cntRow f) := by
  intro p hp
  unfold cntRow at hp
  obtain ⟨i, hi, rfl⟩ := List.mem_map.1 hp
  exact h i hi

theorem sortedRow_cntRow (f : Fp) (hf : f.WF) : SortedRow (cntRow f) := by
  unfold SortedRow; rewrite [cntRow_cols]; exact hf.1

/-! ## the constructors produce fingerprints that their own kind stores without loss -/

theorem mkCount_storedAs (k : Kind) (hk : k ≠ .bit) (ix : Option (List Nat)) (c : Option (List (Nat × Rat)))
    (b : Nat) (l : Int) (f : Fp) (h : mkCount k ix c b l = .ok f) : StoredAs f.kind f := by
  obtain ⟨u, v, rfl⟩ := mkCount_tab k ix c b l f h
  intro i hi
  show castVal k _ = _
  rw [Fp.tab_count k b l u _ hk, if_pos (show i ∈ u from hi), castVal_eq_coerce k hk, coerce_idem]

/-- every fingerprint made by `from_indices` (hence by every public constructor, which all go through
it or through `mkBit` / `mkCount`) is stored without loss in a database of its own kind -/
theorem fromIndices_storedAs (k : Kind) (ix : List Nat) (c : Option (List (Nat × Rat))) (b : Nat) (l : Int)
    (f : Fp) (h : fromIndices k ix c b l = .ok f) : StoredAs f.kind f := by
  cases k with
  | bit => exact storedAs_bit _ f (mkBit_fields ix b l f h).1
  | count => exact mkCount_storedAs .count (by decide) _ _ b l f h
  | float => exact mkCount_storedAs .float (by decide) _ _ b l f h

/-! ## zero operands -/

/-- a similarity value that is 0 (for the root form: numerator and radicand both 0) -/
def _root_.E3fpVerif.Sim.IsZero : Sim → Prop
  | .q v => v = 0
  | .root n r => n = 0 ∧ r = 0

theorem divNan_zero_left (b : Rat) : Gen.divNan 0 b = 0 := by
  unfold Gen.divNan; split
  · rfl
  · rw [Rat.div_def, Rat.zero_mul]

/-- an empty row scores 0 against every row, under every measure, on either side: `X·Yᵀ` and the empty
row's own sums are 0 -/
theorem simRows_nil (m : Measure) (n : Nat) (x y : Row) (h : x = [] ∨ y = []) : (simRows m n x y).IsZero := by
  have hd : dotQ x y = 0 := by
    rcases h with rfl | rfl
    · exact dotQ_nil_left y
    · exact dotQ_nil_right x
  cases m with
  | tanimoto => show Gen.divNan (dotQ x y) _ = 0; rewrite [hd]; exact divNan_zero_left _
  | dice => show Gen.divNan (2 * dotQ x y) _ = 0; rewrite [hd, Rat.mul_zero]; exact divNan_zero_left _
  | soergel => exact if_pos h
  | cosine =>
    refine ⟨hd, ?_⟩
    show dotQ x x * dotQ y y = 0
    rcases h with rfl | rfl
    · rw [dotQ_nil_left, Rat.zero_mul]
    · rw [dotQ_nil_left, Rat.mul_zero]
  | pearson =>
    show (arrPearson n x y).1 = 0 ∧ (arrPearson n x y).2 = 0
    unfold arrPearson
    rcases h with rfl | rfl <;>
      simp only [dotQ_nil_left, dotQ_nil_right, rowSum_nil, Rat.div_def, Rat.zero_mul, Rat.mul_zero, Rat.sub_self,
        and_self]

theorem fpRow_of_empty (k : Kind) (f : Fp) (h : f.idx = []) : fpRow k f = [] := by
  simp [fpRow, h]

/-! ## the bit cast: it keeps the support and produces a 0/1 row -/

theorem rowVal_castRow (k : Kind) (r : Row) (i : Nat) : rowVal (castRow k r) i = castVal k (rowVal r i) := by
  unfold castRow rowVal
  rewrite [lookupQ_eq_lookup, lookupQ_eq_lookup, lookup_map_snd]
  cases r.lookup i with
  | none => exact (castVal_zero k).symm
  | some v => rfl

theorem rowCols_castRow (k : Kind) (r : Row) : rowCols (castRow k r) = rowCols r := by
  unfold rowCols castRow
  rewrite [List.map_map]; rfl

theorem rowSupport_castRow_bit (r : Row) : rowSupport (castRow .bit r) = rowSupport r := by
  apply strictAsc_ext _ _ (strictAsc_rowSupport _) (strictAsc_rowSupport _)
  intro i
  rw [mem_rowSupport, mem_rowSupport, rowVal_castRow, castVal_bit_ne_zero]

theorem zeroOne_castRow_bit (r : Row) : ZeroOne (castRow .bit r) := by
  intro p hp
  unfold castRow at hp
  obtain ⟨q, _, rfl⟩ := List.mem_map.1 hp
  exact (castVal_bit_stable _).1 (castVal_idem .bit q.2)

/-- **matrix Tanimoto after the bit cast = the definition on the supports of the rows as stored**,
for arbitrary rows -/
theorem arrTanimoto_castBit (x y : Row) :
    arrTanimoto (castRow .bit x) (castRow .bit y) = tanimotoDef x y := by
  rewrite [arrTanimoto_zeroOne _ _ (zeroOne_castRow_bit x) (zeroOne_castRow_bit y)]
  unfold tanimotoDef; simp only [rowSupport_castRow_bit]

theorem arrDice_castBit (x y : Row) :
    arrDice (castRow .bit x) (castRow .bit y) = diceDef x y := by
  rewrite [arrDice_zeroOne _ _ (zeroOne_castRow_bit x) (zeroOne_castRow_bit y)]
  unfold diceDef; simp only [rowSupport_castRow_bit]

theorem fpRow_eq_castRow (k : Kind) (f : Fp) : fpRow k f = castRow k (cntRow f) := by
  unfold fpRow castRow cntRow
  rewrite [List.map_map]; rfl

/-- decidable equality on `Except`, for closed witnesses (`decide +kernel`) -/
@[reducible] def decEqExcept {ε α : Type} [DecidableEq ε] [DecidableEq α] : DecidableEq (Except ε α)
  | .ok a, .ok b => if h : a = b then isTrue (by rw [h]) else isFalse (by intro e; cases e; exact h rfl)
  | .error a, .error b => if h : a = b then isTrue (by rw [h]) else isFalse (by intro e; cases e; exact h rfl)
  | .ok _, .error _ => isFalse (by intro e; cases e)
  | .error _, .ok _ => isFalse (by intro e; cases e)

end E3fpVerif.C06L
