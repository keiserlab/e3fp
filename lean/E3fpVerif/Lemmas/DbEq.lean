import Batteries.Data.List.Basic
import E3fpVerif.Model.Db
import E3fpVerif.Lemmas.DbIndex
import E3fpVerif.Lemmas.Uniq
/-!
# What database equality (`Props/C09Db.lean`) compares

Two canonical name indices agree as finite maps exactly when the name lists are equal
(`subMap_canonical_iff`: `positions` determines the list), and `rowContent` does not see the order of
the stored cells of a row.
-/
namespace E3fpVerif

abbrev NIdx := List (Option String × List Nat)

/-- the dictionary comparison of `__eq__`, one direction: every entry of `m` is an entry of `m'` (`Db.eq` writes
the two directions out; `eq_iff_raw` in `Props/C09Db.lean` folds them into `subMap`) -/
def subMap (m m' : NIdx) : Bool := m.all (fun p => mapLookup m' p.1 == some p.2)

theorem subMap_iff (m m' : NIdx) : subMap m m' = true ↔ ∀ p ∈ m, mapLookup m' p.1 = some p.2 := by
  simp only [subMap, List.all_eq_true, beq_iff_eq]

theorem mapLookup_none_of_not_mem (m : NIdx) (k : Option String) (h : k ∉ m.map Prod.fst) : mapLookup m k = none := by
  rewrite [mapLookup_eq_lookup]; exact lookup_eq_none_of_not_mem h

theorem subMap_self (m : NIdx) (h : (m.map Prod.fst).Nodup) : subMap m m = true :=
  (subMap_iff m m).2 fun p hp => by rewrite [mapLookup_eq_lookup]; exact (lookup_eq_some_iff_mem h).2 hp

/-- `positions` determines the list -/
theorem eq_of_positions_eq (xs ys : List (Option String)) (h : ∀ nm, positions xs nm = positions ys nm) : xs = ys := by
  apply List.ext_getElem?
  intro i
  have key : ∀ nm, xs[i]? = some nm ↔ ys[i]? = some nm := by
    intro nm
    rw [← mem_positions, ← mem_positions, h nm]
  cases hx : xs[i]? with
  | none =>
    cases hy : ys[i]? with
    | none => rfl
    | some nm => rewrite [(key nm).2 hy] at hx; cases hx
  | some nm => exact ((key nm).1 hx).symm

theorem positions_of_subMap (xs ys : List (Option String)) (h : subMap (updateNamesMap [] xs 0) (updateNamesMap [] ys 0) = true)
    (nm : Option String) (hm : nm ∈ xs) : nm ∈ ys ∧ positions ys nm = positions xs nm := by
  rewrite [subMap_iff] at h
  have h1 : mapLookup (updateNamesMap [] xs 0) nm = some (positions xs nm) := by
    rw [mapLookup_canonical, if_pos hm]
  have h2 := h _ (mem_of_lookup_eq_some (mapLookup_eq_lookup _ _ ▸ h1))
  simp only at h2
  rewrite [mapLookup_canonical] at h2
  by_cases hy : nm ∈ ys
  · simp only [hy, if_true, Option.some.injEq] at h2
    exact ⟨hy, h2⟩
  · simp [hy] at h2

/-- **two canonical indices agree as finite maps exactly when the name lists are equal** -/
theorem subMap_canonical_iff (xs ys : List (Option String)) :
    (subMap (updateNamesMap [] xs 0) (updateNamesMap [] ys 0) = true ∧
      subMap (updateNamesMap [] ys 0) (updateNamesMap [] xs 0) = true) ↔ xs = ys := by
  constructor
  · rintro ⟨h1, h2⟩
    apply eq_of_positions_eq
    intro nm
    by_cases hx : nm ∈ xs
    · exact (positions_of_subMap xs ys h1 nm hx).2.symm
    · by_cases hy : nm ∈ ys
      · exact absurd (positions_of_subMap ys xs h2 nm hy).1 hx
      · rw [(positions_eq_nil_iff xs nm).2 hx, (positions_eq_nil_iff ys nm).2 hy]
  · rintro rfl
    exact ⟨subMap_self _ (canonical_keys_nodup xs), subMap_self _ (canonical_keys_nodup xs)⟩

theorem sumDuplicates_perm {r r' : Row} (h : r.Perm r') : sumDuplicates r = sumDuplicates r' := by
  unfold sumDuplicates
  rewrite [uniq_ext (r.map Prod.fst) (r'.map Prod.fst) (fun x => (h.map Prod.fst).mem_iff)]
  apply List.map_congr_left
  intro j _
  rw [sumQ_perm ((h.filter _).map Prod.snd)]

theorem rowContent_perm {r r' : Row} (h : r.Perm r') : rowContent r = rowContent r' := by
  unfold rowContent
  rw [sumDuplicates_perm h]

theorem map_rowContent_perm {x y : List Row} (h : List.Forall₂ List.Perm x y) :
    x.map rowContent = y.map rowContent := by
  induction h with
  | nil => rfl
  | cons hp _ ih => simp only [List.map_cons, rowContent_perm hp, ih]

end E3fpVerif
