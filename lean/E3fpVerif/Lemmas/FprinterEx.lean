import E3fpVerif.Lemmas.Fprinter
/-!
# A concrete tiny input for the non-vacuity examples of C02, C12 and C14Entry

A four-atom chain 0-1-2-3 in which every atom is within every shell; only bonded atoms are
neighbours.  Two iterations succeed (levels 0, 1, 2 have 4, 8, 9 shells), the third finds only
duplicate substructures.
-/
namespace E3fpVerif.Ex

def o : Opts :=
  { bits := 1024
    level := 3
    stereo := false
    counts := false
    includeDisconnected := false
    rdkitInvariants := false
    excludeFloating := true
    removeDup := true }

def mkAtom (i z d : Nat) : AtomInfo := { idx := i, atomicNum := z, degree := d, invD := [z, d], invR := [z] }

def m : MolG :=
  { atoms := [mkAtom 0 6 1, mkAtom 1 6 2, mkAtom 2 7 2, mkAtom 3 8 1]
    bonds := [(0, 1, 1), (1, 2, 1), (2, 3, 2)] }

def g : Geo := { within := fun _ _ _ => true, stereo := fun _ _ => [] }

def atoms : List Nat := [0, 1, 2, 3]

def s0 : FState := initState o m atoms

/-- the state after `n` iterations -/
def sN (n : Nat) : FState := iterate o m g atoms n s0

theorem retained_eq : retained o m = atoms := by decide +kernel

/-- Everything the non-vacuity examples need to know about the run, evaluated in one go: the kernel
then evaluates the three iterations once, where a `decide` per fact evaluates them once per fact. -/
theorem facts :
    (sN 3).levelShells.map (·.length) = [4, 8, 9] ∧
    (stepState o m g atoms s0).isSome = true ∧ (stepState o m g atoms (sN 1)).isSome = true ∧
    ((sN 1).past.length = 8 ∧ (sN 2).past.length = 9) ∧
    ((shellsAt (sN 3) none []).length = 9 ∧ (shellsAt (sN 3) none [0]).length = 5) := by
  decide +kernel

theorem step0_some : (stepState o m g atoms s0).isSome = true := facts.2.1

theorem step1_some : (stepState o m g atoms (sN 1)).isSome = true := facts.2.2.1

theorem lengths : (sN 3).levelShells.map (·.length) = [4, 8, 9] := facts.1

theorem past_lengths : (sN 1).past.length = 8 ∧ (sN 2).past.length = 9 := facts.2.2.2.1

theorem masked_lengths : (shellsAt (sN 3) none []).length = 9 ∧ (shellsAt (sN 3) none [0]).length = 5 :=
  facts.2.2.2.2

theorem levels : (sN 3).levelShells.length = 3 := by
  simpa using congrArg List.length lengths

/-- the checks of `runFp` pass on the chain, whatever the level limit and the geometry -/
theorem run_eq (L : Int) (g' : Geo) :
    runFp { o with level := L } m g' =
      .ok (iterate { o with level := L } m g' atoms (runFuel { o with level := L } atoms) s0) := by
  refine (runFp_ok_iff _ m g' _).2 ⟨fun _ => rfl, by decide, ?_, ?_⟩
  · show retained o m ≠ []
    rewrite [retained_eq]; decide
  · show _ = iterate _ m g' (retained o m) (runFuel _ (retained o m)) (initState o m (retained o m))
    rewrite [retained_eq]; rfl

theorem run_ok : runFp o m g = .ok (sN 3) := run_eq 3 g

end E3fpVerif.Ex
