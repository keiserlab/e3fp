import E3fpVerif.Lemmas.Orders
import E3fpVerif.Lemmas.ListAux
/-!
# Renumbering the atoms of a molecule: the molecule-level functions

`MolG.relabel m π` is RDKit's `RenumberAtoms`: every atom index `i` becomes `π i`, the atoms are
listed in ascending order of the new index, both end points of every bond are mapped.  Then what each
molecule-level function of the model (`retained`, `initIdent`, `bondCode`, `conn`, `bonded`, the bond-type
test) gives on the renumbered molecule, for an injective `π` and pairwise distinct atom indices.
-/
namespace E3fpVerif

def ltIdx (a b : AtomInfo) : Bool := a.idx < b.idx

def AtomInfo.relabel (π : Nat → Nat) (a : AtomInfo) : AtomInfo := { a with idx := π a.idx }

/-- `RenumberAtoms` -/
def MolG.relabel (m : MolG) (π : Nat → Nat) : MolG where
  atoms := sortByLt ltIdx (m.atoms.map (AtomInfo.relabel π))
  bonds := m.bonds.map (fun e => (π e.1, π e.2.1, e.2.2))

/-- the atoms of the renumbered molecule are those of `m` with the new indices … -/
theorem relabel_atoms_perm (m : MolG) (π : Nat → Nat) :
    (m.relabel π).atoms.Perm (m.atoms.map (AtomInfo.relabel π)) :=
  sortByLt_perm _ _

/-- … listed in ascending order of the new index -/
theorem relabel_atoms_sorted (m : MolG) (π : Nat → Nat) :
    ((m.relabel π).atoms.map (·.idx)).Pairwise (· ≤ ·) := by
  have hs := sortByLt_sorted ltIdx (fun a => decide_eq_false (Nat.lt_irrefl _))
    (fun a b c h1 h2 => decide_eq_true (Nat.lt_trans (of_decide_eq_true h1) (of_decide_eq_true h2)))
    (m.atoms.map (AtomInfo.relabel π))
  rewrite [List.pairwise_map]
  exact List.Pairwise.imp (fun h => Nat.le_of_not_lt (of_decide_eq_false h)) hs

theorem relabel_filter_map_idx_perm (m : MolG) (π : Nat → Nat) (p : AtomInfo → Bool)
    (hpρ : ∀ x, p (AtomInfo.relabel π x) = p x) :
    (((m.relabel π).atoms.filter p).map (·.idx)).Perm (((m.atoms.filter p).map (·.idx)).map π) := by
  refine (((relabel_atoms_perm m π).filter p).map _).trans ?_
  have hc : (p ∘ AtomInfo.relabel π) = p := funext hpρ
  rewrite [List.filter_map, hc, List.map_map, List.map_map]
  exact List.Perm.of_eq rfl

/-- the retained atoms of the renumbered molecule are the images of the retained atoms -/
theorem retained_relabel (o : Opts) (m : MolG) (π : Nat → Nat) :
    (retained o (m.relabel π)).Perm ((retained o m).map π) := by
  have hA := relabel_filter_map_idx_perm m π (fun a => a.atomicNum > 1) (fun _ => rfl)
  have hB := relabel_filter_map_idx_perm m π (fun a => a.atomicNum > 1 && a.degree > 0) (fun _ => rfl)
  have hlen := hA.length_eq
  unfold retained
  simp only [List.length_map] at hlen ⊢
  rewrite [hlen]
  generalize (o.excludeFloating && decide (_ > 1)) = c
  cases c
  · exact hA
  · exact hB

theorem find?_relabel (π : Nat → Nat) (hinj : ∀ a b, π a = π b → a = b) (m : MolG)
    (h : (m.atoms.map (·.idx)).Nodup) (a : Nat) :
    (m.relabel π).atoms.find? (fun x => decide (x.idx = π a))
      = (m.atoms.find? (fun x => decide (x.idx = a))).map (AtomInfo.relabel π) := by
  rewrite [find?_perm_of_unique _ _ _ (relabel_atoms_perm m π)]
  · rewrite [List.find?_map]
    have hc : ((fun x : AtomInfo => decide (x.idx = π a)) ∘ AtomInfo.relabel π)
        = (fun x : AtomInfo => decide (x.idx = a)) := by
      funext x
      simp only [Function.comp, AtomInfo.relabel]
      exact decide_eq_decide.2 ⟨fun e => hinj _ _ e, fun e => by rw [e]⟩
    rw [hc]
  · intro x hx y hy hpx hpy
    rcases List.mem_map.1 ((relabel_atoms_perm m π).mem_iff.1 hx) with ⟨x0, hx0, rfl⟩
    rcases List.mem_map.1 ((relabel_atoms_perm m π).mem_iff.1 hy) with ⟨y0, hy0, rfl⟩
    simp only [AtomInfo.relabel] at hpx hpy
    have : x0.idx = y0.idx := hinj _ _ ((of_decide_eq_true hpx).trans (of_decide_eq_true hpy).symm)
    rw [inj_of_nodup_map (·.idx) m.atoms h x0 hx0 y0 hy0 this]

theorem initIdent_relabel (π : Nat → Nat) (hinj : ∀ a b, π a = π b → a = b) (o : Opts) (m : MolG)
    (h : (m.atoms.map (·.idx)).Nodup) (a : Nat) :
    initIdent o (m.relabel π) (π a) = initIdent o m a := by
  unfold initIdent atomInfo
  rewrite [find?_relabel π hinj m h a]
  cases m.atoms.find? (fun x => decide (x.idx = a)) <;> rfl

theorem bondCode_relabel (π : Nat → Nat) (hinj : ∀ a b, π a = π b → a = b) (m : MolG) (a b : Nat) :
    bondCode (m.relabel π) (π a) (π b) = bondCode m a b := by
  unfold bondCode MolG.relabel
  simp only
  rewrite [List.find?_map, Option.map_map]
  have hc : ((fun e : Nat × Nat × Nat =>
        decide ((e.1 = π a ∧ e.2.1 = π b) ∨ (e.1 = π b ∧ e.2.1 = π a))) ∘
        (fun e : Nat × Nat × Nat => (π e.1, π e.2.1, e.2.2)))
      = (fun e : Nat × Nat × Nat => decide ((e.1 = a ∧ e.2.1 = b) ∨ (e.1 = b ∧ e.2.1 = a))) := by
    funext e
    simp only [Function.comp]
    apply decide_eq_decide.2
    have hi : ∀ u v, π u = π v ↔ u = v := fun u v => ⟨hinj u v, fun e => by rw [e]⟩
    rw [hi, hi, hi, hi]
  rewrite [hc]
  rfl

theorem conn_relabel (π : Nat → Nat) (hinj : ∀ a b, π a = π b → a = b) (m : MolG) (a b : Nat) :
    conn (m.relabel π) (π a) (π b) = conn m a b := by
  unfold conn; rw [bondCode_relabel π hinj]

theorem bonded_relabel (π : Nat → Nat) (hinj : ∀ a b, π a = π b → a = b) (m : MolG) (a b : Nat) :
    bonded (m.relabel π) (π a) (π b) = bonded m a b := by
  unfold bonded; rw [bondCode_relabel π hinj]

/-- the `KeyError` test on the bond types is unaffected -/
theorem relabel_bonds_any (m : MolG) (π : Nat → Nat) :
    (m.relabel π).bonds.any (fun e => e.2.2 = 0) = m.bonds.any (fun e => e.2.2 = 0) := by
  unfold MolG.relabel
  simp only [List.any_map]
  rfl

end E3fpVerif
