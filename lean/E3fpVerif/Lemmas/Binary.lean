import E3fpVerif.Lemmas.MergeSD
/-!
# Sums of indicators, intersection counts, and 0/1-valued rows
-/
namespace E3fpVerif.C06L

/-! ## indicator sums -/

def indQ (p : Bool) : Rat := if p then 1 else 0

theorem sumQ_map_indQ (l : List Nat) (p : Nat → Bool) :
    sumQ (l.map (fun i => indQ (p i))) = ((l.filter p).length : Nat) := by
  induction l with
  | nil => rfl
  | cons a as ih =>
    rewrite [List.map_cons, sumQ, ih, List.filter_cons]
    by_cases h : p a = true
    · rewrite [if_pos h, List.length_cons, Rat.natCast_add, h, Rat.add_comm]; rfl
    · rewrite [if_neg h, Bool.eq_false_iff.2 h]; exact Rat.zero_add _

/-! ## intersection counts of strictly ascending lists -/

theorem interCount_comm (a b : List Nat) (ha : StrictAsc a) (hb : StrictAsc b) :
    interCount a b = interCount b a := by
  unfold interCount
  congr 1
  apply strictAsc_ext _ _ (StrictAsc.filter _ ha) (StrictAsc.filter _ hb)
  intro i; simp only [List.mem_filter, decide_eq_true_eq]; exact And.comm

theorem interCount_le_left (a b : List Nat) : interCount a b ≤ a.length :=
  List.length_filter_le _ _

theorem interCount_le_right (a b : List Nat) (ha : StrictAsc a) (hb : StrictAsc b) :
    interCount a b ≤ b.length := by
  rewrite [interCount_comm a b ha hb]; exact interCount_le_left b a

theorem interCount_self (a : List Nat) : interCount a a = a.length := by
  unfold interCount
  rw [List.filter_eq_self.2]
  intro i hi; simpa using hi

/-! ## columns and support of a row -/

theorem mem_rowCols (r : Row) (k : Nat) : k ∈ rowCols r ↔ k ∈ r.map Prod.fst := mem_uniq k _

theorem rowVal_mem (r : Row) (k : Nat) (h : k ∈ r.map Prod.fst) : (k, rowVal r k) ∈ r := by
  obtain ⟨v, hv⟩ := Option.isSome_iff_exists.1 (lookup_isSome_iff.2 h)
  rewrite [rowVal, lookupQ_eq_lookup, hv]
  exact mem_of_lookup_eq_some hv

theorem mem_rowSupport (r : Row) (k : Nat) : k ∈ rowSupport r ↔ rowVal r k ≠ 0 := by
  unfold rowSupport
  simp only [List.mem_filter, decide_eq_true_eq, and_iff_right_iff_imp, mem_rowCols]
  exact fun h => Classical.byContradiction (fun hn => h (rowVal_of_not_mem r k hn))

theorem strictAsc_rowCols (r : Row) : StrictAsc (rowCols r) := strictAsc_uniq _
theorem strictAsc_unionCols (x y : Row) : StrictAsc (unionCols x y) := strictAsc_uniq _
theorem strictAsc_rowSupport (r : Row) : StrictAsc (rowSupport r) := StrictAsc.filter _ (strictAsc_rowCols r)

theorem rowSupport_sub_cols (r : Row) : ∀ i ∈ rowSupport r, i ∈ rowCols r :=
  fun _ hi => (List.mem_filter.1 hi).1

theorem rowCols_sub_union_left (x y : Row) : ∀ i ∈ rowCols x, i ∈ unionCols x y :=
  fun i hi => (mem_unionCols x y i).2 (Or.inl ((mem_rowCols x i).1 hi))
theorem rowCols_sub_union_right (x y : Row) : ∀ i ∈ rowCols y, i ∈ unionCols x y :=
  fun i hi => (mem_unionCols x y i).2 (Or.inr ((mem_rowCols y i).1 hi))

/-! ## 0/1-valued rows

Every stored value 1 (`BinaryRow`, a bit row) or every stored value 0 or 1 (`ZeroOne`, what the bit cast
produces).  On such rows the value at a column is the indicator of the support, so the sum over the columns of a
pointwise function that is `α·[i ∈ A] + β·[i ∈ B] + γ·[i ∈ A ∩ B]` on indicators is `α|A| + β|B| + γ|A ∩ B|`
(`sum_zeroOne`). -/

def BinaryRow (r : Row) : Prop := ∀ p ∈ r, p.2 = 1

def ZeroOne (r : Row) : Prop := ∀ p ∈ r, p.2 = 0 ∨ p.2 = 1

theorem BinaryRow.zeroOne {r : Row} (h : BinaryRow r) : ZeroOne r := fun p hp => Or.inr (h p hp)

theorem rowVal_zeroOne (r : Row) (h : ZeroOne r) (k : Nat) :
    rowVal r k = indQ (decide (k ∈ rowSupport r)) := by
  by_cases hk : rowVal r k = 0
  · have : k ∉ rowSupport r := fun hm => (mem_rowSupport r k).1 hm hk
    simp [indQ, this, hk]
  · have hm : k ∈ rowSupport r := (mem_rowSupport r k).2 hk
    have hc := (mem_rowCols r k).1 (rowSupport_sub_cols r k hm)
    rcases h _ (rowVal_mem r k hc) with h0 | h1
    · exact absurd h0 hk
    · dsimp only at h1; simp [indQ, hm, h1]

theorem rowSupport_binary (r : Row) (h : BinaryRow r) : rowSupport r = rowCols r := by
  apply List.filter_eq_self.2
  intro i hi
  have := h _ (rowVal_mem r i ((mem_rowCols r i).1 hi))
  dsimp only at this
  simp [this]

theorem sum_zeroOne (x y : Row) (hx : ZeroOne x) (hy : ZeroOne y) (g : Rat → Rat → Rat) (α β γ : Rat)
    (hg : ∀ p q : Bool, g (indQ p) (indQ q) = α * indQ p + β * indQ q + γ * indQ (p && q)) :
    sumQ ((unionCols x y).map (fun i => g (rowVal x i) (rowVal y i)))
      = α * ((rowSupport x).length : Nat) + β * ((rowSupport y).length : Nat)
        + γ * (interCount (rowSupport x) (rowSupport y) : Nat) := by
  have sx := filter_mem_eq _ _ (strictAsc_unionCols x y) (strictAsc_rowSupport x)
    fun i hi => rowCols_sub_union_left x y i (rowSupport_sub_cols x i hi)
  have sy := filter_mem_eq _ _ (strictAsc_unionCols x y) (strictAsc_rowSupport y)
    fun i hi => rowCols_sub_union_right x y i (rowSupport_sub_cols y i hi)
  -- `filter (∈ B ∧ ∈ A) U = filter (∈ B) (filter (∈ A) U) = filter (∈ B) A`, whose length is `interCount A B`
  rewrite [List.map_congr_left (fun k _ => by rw [rowVal_zeroOne x hx, rowVal_zeroOne y hy, hg, Bool.and_comm]),
         sumQ_map_add, sumQ_map_add, sumQ_map_mul_left, sumQ_map_mul_left, sumQ_map_mul_left,
         sumQ_map_indQ, sumQ_map_indQ, sumQ_map_indQ, ← List.filter_filter, sx, sy]
  rfl

theorem dotQ_zeroOne (x y : Row) (hx : ZeroOne x) (hy : ZeroOne y) :
    dotQ x y = (interCount (rowSupport x) (rowSupport y) : Nat) := by
  unfold dotQ
  rewrite [sum_zeroOne x y hx hy (· * ·) 0 0 1 (fun p q => by cases p <;> cases q <;> decide +kernel)]
  simp only [Rat.zero_mul, Rat.zero_add, Rat.one_mul]

theorem colSumMax_zeroOne (x y : Row) (hx : ZeroOne x) (hy : ZeroOne y) :
    colSumMax x y (unionCols x y) = ((rowSupport x).length : Nat) + ((rowSupport y).length : Nat)
      - (interCount (rowSupport x) (rowSupport y) : Nat) := by
  unfold colSumMax
  rewrite [sum_zeroOne x y hx hy maxQ 1 1 (-1) (fun p q => by cases p <;> cases q <;> decide +kernel)]
  simp only [Rat.one_mul, Rat.neg_mul, Rat.sub_eq_add_neg]

theorem colSumAbs_zeroOne (x y : Row) (hx : ZeroOne x) (hy : ZeroOne y) :
    colSumAbs x y (unionCols x y) = ((rowSupport x).length : Nat) + ((rowSupport y).length : Nat)
      - 2 * (interCount (rowSupport x) (rowSupport y) : Nat) := by
  unfold colSumAbs
  rewrite [sum_zeroOne x y hx hy (fun a b => absQ (a - b)) 1 1 (-2) (fun p q => by cases p <;> cases q <;> decide +kernel)]
  simp only [Rat.one_mul, Rat.neg_mul, Rat.sub_eq_add_neg]

theorem rowSum_zeroOne (x : Row) (hx : ZeroOne x) : rowSum x = ((rowSupport x).length : Nat) := by
  unfold rowSum
  rw [List.map_congr_left (fun k _ => rowVal_zeroOne x hx k), sumQ_map_indQ,
    filter_mem_eq _ _ (strictAsc_rowCols x) (strictAsc_rowSupport x) (rowSupport_sub_cols x)]

theorem rowSum_binary (r : Row) (h : BinaryRow r) : rowSum r = ((rowCols r).length : Nat) := by
  rw [rowSum_zeroOne r h.zeroOne, rowSupport_binary r h]

/-- `X·Yᵀ` of two bit rows is the size of the intersection -/
theorem dotQ_binary (x y : Row) (hx : BinaryRow x) (hy : BinaryRow y) :
    dotQ x y = (interCount (rowCols x) (rowCols y) : Nat) := by
  rw [dotQ_zeroOne x y hx.zeroOne hy.zeroOne, rowSupport_binary x hx, rowSupport_binary y hy]

/-! ## Tanimoto and Dice in the shape of the generated ratio expressions -/

theorem natCast_sub_of_le (n m : Nat) (h : m ≤ n) : ((n - m : Nat) : Rat) = (n : Rat) - (m : Rat) := by
  rw [← Nat.sub_add_cancel h, Rat.natCast_add, Rat.add_sub_cancel, Nat.sub_add_cancel h]

theorem tanimotoDef_eq_expr (x y : Row) :
    tanimotoDef x y = Gen.fpTanimotoExpr (interCount (rowSupport x) (rowSupport y))
      (rowSupport x).length (rowSupport y).length := by
  unfold tanimotoDef Gen.fpTanimotoExpr divNan Gen.divNan
  dsimp only
  rw [natCast_sub_of_le _ _ (Nat.le_trans (interCount_le_left _ _) (Nat.le_add_right _ _)),
    Rat.natCast_add]

theorem diceDef_eq_expr (x y : Row) :
    diceDef x y = Gen.fpDiceExpr (interCount (rowSupport x) (rowSupport y))
      (rowSupport x).length (rowSupport y).length := by
  unfold diceDef Gen.fpDiceExpr divNan Gen.divNan
  simp only [Rat.natCast_add]

/-- matrix Tanimoto = definition on 0/1 rows, explicit zeros, any order, duplicates allowed -/
theorem arrTanimoto_zeroOne (x y : Row) (hx : ZeroOne x) (hy : ZeroOne y) :
    arrTanimoto x y = tanimotoDef x y := by
  rewrite [tanimotoDef_eq_expr]
  unfold arrTanimoto
  rewrite [dotQ_zeroOne x y hx hy, rowSum_zeroOne x hx, rowSum_zeroOne y hy]
  rfl

theorem arrDice_zeroOne (x y : Row) (hx : ZeroOne x) (hy : ZeroOne y) :
    arrDice x y = diceDef x y := by
  rewrite [diceDef_eq_expr]
  unfold arrDice
  rewrite [dotQ_zeroOne x y hx hy, rowSum_zeroOne x hx, rowSum_zeroOne y hy]
  rfl

end E3fpVerif.C06L
