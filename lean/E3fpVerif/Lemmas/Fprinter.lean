import E3fpVerif.Model.Fprinter
import E3fpVerif.Lemmas.GenLevel
import E3fpVerif.Lemmas.Orders
import E3fpVerif.Lemmas.ExceptGuard
/-!
# The fingerprinter run: equations and general facts for every stage

`unionShells`, the duplicate filter in recursive form (`dedupSpec`), one step as "stop test, else next
state" (`stepStateG_eq`, for any level generator; `stepState_eq` for the model's), `iterate`, `runFp` as
"checks, then iteration" (`runFpG_eq`, `runFp_ok_iff`), and the fact that a run reads its `Geo` only on the
atoms it works on (`runFp_congr`).  What a map `φ` of the shells does to the filter (`dedupSpec_map`, `accepted_map`) and
to the shells and the fingerprint read off a state (`shellsAt_map`, `fingerprintAt_map`; `fingerprintAt_eq_ok` says when
that reading succeeds).  One level of shells is described in `Lemmas/GenLevel.lean`.
-/
namespace E3fpVerif

/-! ## the union of accepted shells and the duplicate filter -/

theorem unionShells_nil (old : List GShell) : unionShells old [] = old := rfl

theorem unionShells_cons (old : List GShell) (s : GShell) (rest : List GShell) :
    unionShells old (s :: rest)
      = unionShells (if old.any (fun x => x.sid == s.sid) then old else old ++ [s]) rest := rfl

theorem unionShells_prefix (old new : List GShell) : old <+: unionShells old new := by
  induction new generalizing old with
  | nil => exact List.prefix_refl _
  | cons s rest ih =>
    rewrite [unionShells_cons]
    cases old.any (fun x => x.sid == s.sid)
    · exact (List.prefix_append old [s]).trans (ih _)
    · exact ih old

theorem unionShells_mem_of_mem_old (old new : List GShell) : ∀ s ∈ old, s ∈ unionShells old new :=
  fun _ hs => (unionShells_prefix old new).subset hs

theorem unionShells_length_ge (old new : List GShell) : old.length ≤ (unionShells old new).length :=
  (unionShells_prefix old new).length_le

theorem unionShells_mem (old new : List GShell) (x : GShell) (h : x ∈ unionShells old new) :
    x ∈ old ∨ x ∈ new := by
  induction new generalizing old with
  | nil => exact Or.inl h
  | cons s rest ih =>
    rewrite [unionShells_cons] at h
    rcases ih _ h with h | h
    · split at h
      · exact Or.inl h
      · rcases List.mem_append.1 h with h | h
        · exact Or.inl h
        · simp only [List.mem_singleton] at h; subst h; exact Or.inr (by simp)
    · exact Or.inr (List.mem_cons_of_mem _ h)

theorem unionShells_map (φ : GShell → GShell) (hsid : ∀ x, (φ x).sid = x.sid) (old new : List GShell) :
    unionShells (old.map φ) (new.map φ) = (unionShells old new).map φ := by
  induction new generalizing old with
  | nil => rfl
  | cons s ss ih =>
    have hany : (old.map φ).any (fun x => x.sid == (φ s).sid) = old.any (fun x => x.sid == s.sid) := by
      rewrite [List.any_map, hsid]
      exact congrArg _ (funext (fun x => by simp only [Function.comp, hsid]))
    rw [List.map_cons, unionShells_cons, unionShells_cons, hany, ← ih, apply_ite (List.map φ), List.map_append,
      List.map_singleton]

theorem unionShells_eq_filter (old new : List GShell) (h : new.Pairwise (fun a b => a.sid ≠ b.sid)) :
    unionShells old new = old ++ new.filter (fun z => !old.any (fun x => x.sid == z.sid)) := by
  induction new generalizing old with
  | nil => rw [unionShells_nil, List.filter_nil, List.append_nil]
  | cons s rest ih =>
    rewrite [List.pairwise_cons] at h
    rewrite [unionShells_cons, List.filter_cons]
    cases hs : old.any (fun x => x.sid == s.sid)
    · rewrite [if_neg Bool.false_ne_true, Bool.not_false, if_pos rfl, ih _ h.2, List.append_assoc, List.singleton_append]
      refine congrArg (fun l => old ++ s :: l) (List.filter_congr ?_)
      intro z hz
      rw [List.any_append, List.any_cons, List.any_nil, Bool.or_false, beq_eq_false_iff_ne.2 (h.1 z hz), Bool.or_false]
    · rewrite [if_pos rfl, Bool.not_true, if_neg Bool.false_ne_true]
      exact ih old h.2

theorem unionShells_eq_append (old new : List GShell)
    (h1 : ∀ x ∈ old, ∀ z ∈ new, x.sid ≠ z.sid) (h2 : new.Pairwise (fun a b => a.sid ≠ b.sid)) :
    unionShells old new = old ++ new := by
  rw [unionShells_eq_filter old new h2, List.filter_eq_self.2]
  intro z hz
  rewrite [Bool.not_eq_true', List.any_eq_false]
  intro x hx
  exact mt beq_iff_eq.1 (h1 x hx z hz)

/-- explicit recursive characterisation of the accepted shells of `dedupShells` -/
def dedupSpec (past : List (List Nat)) : List GShell → List GShell
  | [] => []
  | s :: rest =>
    if past.contains s.sub then dedupSpec past rest else s :: dedupSpec (past ++ [s.sub]) rest

theorem dedupSpec_cons_pos (past : List (List Nat)) (s : GShell) (rest : List GShell)
    (h : past.contains s.sub = true) : dedupSpec past (s :: rest) = dedupSpec past rest :=
  if_pos h

theorem dedupSpec_cons_neg (past : List (List Nat)) (s : GShell) (rest : List GShell)
    (h : ¬ past.contains s.sub = true) :
    dedupSpec past (s :: rest) = s :: dedupSpec (past ++ [s.sub]) rest :=
  if_neg h

theorem dedup_foldl (past : List (List Nat)) (acc cands : List GShell) :
    cands.foldl (fun (acc : List (List Nat) × List GShell) s =>
      if acc.1.contains s.sub then acc else (acc.1 ++ [s.sub], acc.2 ++ [s])) (past, acc)
    = (past ++ (dedupSpec past cands).map (·.sub), acc ++ dedupSpec past cands) := by
  induction cands generalizing past acc with
  | nil => simp only [dedupSpec, List.foldl_nil, List.map_nil, List.append_nil]
  | cons s rest ih =>
    rewrite [List.foldl_cons]
    by_cases h : past.contains s.sub = true
    · rewrite [if_pos h, dedupSpec_cons_pos _ _ _ h]; exact ih past acc
    · rewrite [if_neg h, dedupSpec_cons_neg _ _ _ h, ih, List.map_cons, List.append_assoc, List.append_assoc]; rfl

theorem dedupShells_eq (past : List (List Nat)) (cands : List GShell) :
    dedupShells past cands = (past ++ (dedupSpec past cands).map (·.sub), dedupSpec past cands) := by
  rw [dedupShells, dedup_foldl, List.nil_append]

theorem dedupSpec_sublist (past : List (List Nat)) (cands : List GShell) :
    (dedupSpec past cands).Sublist cands := by
  induction cands generalizing past with
  | nil => exact List.Sublist.slnil
  | cons s rest ih =>
    unfold dedupSpec
    cases past.contains s.sub
    · exact (ih _).cons_cons _
    · exact (ih past).cons _

theorem dedupSpec_not_past (past : List (List Nat)) (cands : List GShell) :
    ∀ x ∈ dedupSpec past cands, x.sub ∉ past := by
  induction cands generalizing past with
  | nil => intro x hx; cases hx
  | cons s rest ih =>
    by_cases hc : past.contains s.sub = true
    · rewrite [dedupSpec_cons_pos _ _ _ hc]; exact ih past
    · rewrite [dedupSpec_cons_neg _ _ _ hc, List.forall_mem_cons]
      exact ⟨fun hp => hc (List.contains_iff_mem.2 hp), fun x hx hp => ih _ x hx (List.mem_append_left _ hp)⟩

theorem dedupSpec_nodup (past : List (List Nat)) (cands : List GShell) :
    ((dedupSpec past cands).map (·.sub)).Nodup := by
  induction cands generalizing past with
  | nil => exact List.nodup_nil
  | cons s rest ih =>
    unfold dedupSpec
    split
    · exact ih past
    · rewrite [List.map_cons, List.nodup_cons]
      refine ⟨?_, ih _⟩
      intro hm
      rcases List.mem_map.1 hm with ⟨x, hx, hxs⟩
      exact dedupSpec_not_past _ rest x hx (List.mem_append_right _ (List.mem_singleton.2 hxs))

theorem dedupSpec_covers (past : List (List Nat)) (cands : List GShell) :
    ∀ x ∈ cands, x.sub ∈ past ++ (dedupSpec past cands).map (·.sub) := by
  induction cands generalizing past with
  | nil => intro x hx; cases hx
  | cons s rest ih =>
    rewrite [List.forall_mem_cons]
    by_cases hc : past.contains s.sub = true
    · rewrite [dedupSpec_cons_pos _ _ _ hc]
      exact ⟨List.mem_append_left _ (List.contains_iff_mem.1 hc), ih past⟩
    · rewrite [dedupSpec_cons_neg _ _ _ hc, List.map_cons, ← List.singleton_append, ← List.append_assoc]
      exact ⟨List.mem_append_left _ (List.mem_append_right _ (List.mem_singleton_self _)), ih _⟩

/-- among candidates sorted by identifier, an accepted shell has the smallest identifier of all
candidates with its substructure -/
theorem dedupSpec_min (past : List (List Nat)) (cands : List GShell)
    (hs : cands.Pairwise (fun a b => a.ident ≤ b.ident)) :
    ∀ x ∈ dedupSpec past cands, ∀ y ∈ cands, y.sub = x.sub → x.ident ≤ y.ident := by
  induction cands generalizing past with
  | nil => intro x _ y hy; cases hy
  | cons s rest ih =>
    rewrite [List.pairwise_cons] at hs
    intro x hx y hy hyx
    by_cases hc : past.contains s.sub = true
    · rewrite [dedupSpec_cons_pos _ _ _ hc] at hx
      rcases List.mem_cons.1 hy with rfl | hy
      · exact absurd (hyx ▸ List.contains_iff_mem.1 hc) (dedupSpec_not_past _ _ x hx)
      · exact ih past hs.2 x hx y hy hyx
    · rewrite [dedupSpec_cons_neg _ _ _ hc] at hx
      rcases List.mem_cons.1 hx with rfl | hx
      · rcases List.mem_cons.1 hy with rfl | hy
        · exact Int.le_refl _
        · exact hs.1 y hy
      · rcases List.mem_cons.1 hy with rfl | hy
        · exact absurd (List.mem_append_right _ (List.mem_singleton.2 hyx.symm)) (dedupSpec_not_past _ _ x hx)
        · exact ih _ hs.2 x hx y hy hyx

theorem dedupSpec_congr (p₁ p₂ : List (List Nat)) (cands : List GShell) (h : ∀ x, x ∈ p₁ ↔ x ∈ p₂) :
    dedupSpec p₁ cands = dedupSpec p₂ cands := by
  induction cands generalizing p₁ p₂ with
  | nil => rfl
  | cons s rest ih =>
    unfold dedupSpec
    have hc : p₁.contains s.sub = p₂.contains s.sub := by
      rw [Bool.eq_iff_iff, List.contains_iff_mem, List.contains_iff_mem, h]
    rw [hc, ih _ _ h, ih (p₁ ++ [s.sub]) (p₂ ++ [s.sub])]
    intro x; rw [List.mem_append, List.mem_append, h]

theorem dedupSpec_append (past : List (List Nat)) (pre post : List GShell) :
    dedupSpec past (pre ++ post)
      = dedupSpec past pre ++ dedupSpec (past ++ (dedupSpec past pre).map (·.sub)) post := by
  induction pre generalizing past with
  | nil => simp only [dedupSpec, List.map_nil, List.append_nil, List.nil_append]
  | cons s rest ih =>
    rewrite [List.cons_append]
    by_cases h : past.contains s.sub = true
    · rewrite [dedupSpec_cons_pos _ _ _ h, dedupSpec_cons_pos _ _ _ h]; exact ih past
    · rewrite [dedupSpec_cons_neg _ _ _ h, dedupSpec_cons_neg _ _ _ h, ih, List.map_cons, List.append_assoc]; rfl

theorem mem_past_dedupSpec (past : List (List Nat)) (pre : List GShell) (x : List Nat) :
    x ∈ past ++ (dedupSpec past pre).map (·.sub) ↔ x ∈ past ++ pre.map (·.sub) := by
  rewrite [List.mem_append, List.mem_append]
  constructor
  · rintro (h | h)
    · exact Or.inl h
    · exact Or.inr (((dedupSpec_sublist _ _).map _).subset h)
  · rintro (h | h)
    · exact Or.inl h
    · rcases List.mem_map.1 h with ⟨y, hy, rfl⟩
      exact List.mem_append.1 (dedupSpec_covers past pre y hy)

/-- the candidates after `pre` are filtered against `past` and all of `pre`, kept or dropped -/
theorem dedupSpec_append_all (past : List (List Nat)) (pre post : List GShell) :
    dedupSpec past (pre ++ post) = dedupSpec past pre ++ dedupSpec (past ++ pre.map (·.sub)) post := by
  rewrite [dedupSpec_append]
  exact congrArg (_ ++ ·) (dedupSpec_congr _ _ _ (mem_past_dedupSpec past pre))

/-- first occurrence wins: the candidate at a given position is kept iff its substructure is neither
in `past` nor the substructure of an earlier candidate -/
theorem dedupSpec_first_occurrence (past : List (List Nat)) (pre : List GShell) (s : GShell)
    (post : List GShell) :
    dedupSpec past (pre ++ s :: post) =
      dedupSpec past pre
        ++ (if past.contains s.sub || pre.any (fun x => x.sub == s.sub) then [] else [s])
        ++ dedupSpec (past ++ (pre ++ [s]).map (·.sub)) post := by
  have hc : (past ++ pre.map (·.sub)).contains s.sub
      = (past.contains s.sub || pre.any (fun x => x.sub == s.sub)) := by
    rewrite [Bool.eq_iff_iff]
    simp only [List.contains_iff_mem, List.mem_append, Bool.or_eq_true, List.any_eq_true, List.mem_map,
      beq_iff_eq]
  have hs : dedupSpec (past ++ pre.map (·.sub)) [s]
      = if past.contains s.sub || pre.any (fun x => x.sub == s.sub) then [] else [s] := by
    rewrite [← hc]; rfl
  rewrite [dedupSpec_append_all, List.append_assoc, ← hs, show s :: post = [s] ++ post from rfl,
         dedupSpec_append_all]
  simp

/-- the filter under a map `φ` of shells that sends the substructure through `ψ`, injective on a class
`P` of substructures that holds all those in sight (stripping the neighbour lists: `ψ = id`; renumbering
the atoms monotonically: `P` = "inside `atoms`") -/
theorem dedupSpec_map (φ : GShell → GShell) (ψ : List Nat → List Nat) (hsub : ∀ x, (φ x).sub = ψ x.sub)
    (P : List Nat → Prop) (hψ : ∀ p q, P p → P q → ψ p = ψ q → p = q)
    (past : List (List Nat)) (cands : List GShell) (hp : ∀ p ∈ past, P p) (hc : ∀ x ∈ cands, P x.sub) :
    dedupSpec (past.map ψ) (cands.map φ) = (dedupSpec past cands).map φ := by
  induction cands generalizing past with
  | nil => rfl
  | cons s rest ih =>
    have hs : P s.sub := hc s List.mem_cons_self
    have hc' : ∀ x ∈ rest, P x.sub := fun x hx => hc x (List.mem_cons_of_mem _ hx)
    have hcont : (past.map ψ).contains (φ s).sub = past.contains s.sub := by
      rewrite [hsub]
      exact contains_map_of_inj ψ past s.sub (fun p hp' => hψ p s.sub (hp p hp') hs)
    by_cases hcn : past.contains s.sub = true
    · rewrite [List.map_cons, dedupSpec_cons_pos _ _ _ hcn, dedupSpec_cons_pos _ _ _ (hcont.trans hcn)]
      exact ih past hp hc'
    · rewrite [List.map_cons, dedupSpec_cons_neg _ _ _ hcn, dedupSpec_cons_neg _ _ _ (fun hh => hcn (hcont.symm.trans hh)),
             List.map_cons]
      refine congrArg (φ s :: ·) ?_
      have := ih (past ++ [s.sub]) (List.forall_mem_append.2 ⟨hp, List.forall_mem_singleton.2 hs⟩) hc'
      rewrite [List.map_append, List.map_cons, List.map_nil, ← hsub] at this
      exact this

/-- the pair `stepAccG` computes (substructures seen, shells accepted), under such a map; `if b = true` is
what `if o.removeDup then …` elaborates to -/
theorem accepted_map (φ : GShell → GShell) (ψ : List Nat → List Nat) (hsub : ∀ x, (φ x).sub = ψ x.sub)
    (P : List Nat → Prop) (hψ : ∀ p q, P p → P q → ψ p = ψ q → p = q)
    (b : Bool) (past : List (List Nat)) (cands : List GShell) (hp : ∀ p ∈ past, P p) (hc : ∀ x ∈ cands, P x.sub) :
    (if b = true then dedupShells (past.map ψ) (cands.map φ) else (past.map ψ, cands.map φ))
      = ((if b = true then dedupShells past cands else (past, cands)).1.map ψ,
         (if b = true then dedupShells past cands else (past, cands)).2.map φ) := by
  cases b
  · rfl
  · simp only [if_true, dedupShells_eq, dedupSpec_map φ ψ hsub P hψ past cands hp hc, List.map_append, List.map_map]
    exact congrArg (fun f => (past.map ψ ++ (dedupSpec past cands).map f, (dedupSpec past cands).map φ))
      (funext hsub)

/-! ## one step, for any level generator -/

abbrev LevelGen := List GShell → Nat → Intern → Intern × List GShell

/-- `stepState` with the level generator as a parameter -/
def stepStateG (gl : LevelGen) (o : Opts) (atoms : List Nat) (s : FState) : Option FState :=
  let cur := s.currentLevel
  if o.level ≠ -1 && (cur : Int) ≥ o.level then none
  else
    let curGen := s.gen.getLastD []
    if o.removeDup && curGen.all (fun x => x.sub.length == atoms.length) then none
    else
      let k := cur + 1
      let (t', shells) := gl curGen k s.tbl
      let sorted := sortByLt ltShell shells
      let (past', accepted) := if o.removeDup then dedupShells s.past sorted else (s.past, sorted)
      let prevLS := s.levelShells.getLastD []
      let ls := unionShells prevLS accepted
      if ls.length = prevLS.length then none
      else some { tbl := t', gen := s.gen ++ [shells], levelShells := s.levelShells ++ [ls], past := past' }

/-- the substructures seen and the shells accepted at the next level -/
def stepAccG (gl : LevelGen) (o : Opts) (s : FState) : List (List Nat) × List GShell :=
  if o.removeDup then dedupShells s.past (sortByLt ltShell (gl (s.gen.getLastD []) (s.currentLevel + 1) s.tbl).2)
  else (s.past, sortByLt ltShell (gl (s.gen.getLastD []) (s.currentLevel + 1) s.tbl).2)

/-- the three stop rules of `Fingerprinter.__next__`: the level limit is reached; every substructure
is complete; the next level adds no shell -/
def stopsG (gl : LevelGen) (o : Opts) (atoms : List Nat) (s : FState) : Bool :=
  (o.level ≠ -1 && (s.currentLevel : Int) ≥ o.level) ||
  (o.removeDup && (s.gen.getLastD []).all (fun x => x.sub.length == atoms.length)) ||
  (unionShells (s.levelShells.getLastD []) (stepAccG gl o s).2).length == (s.levelShells.getLastD []).length

/-- the state after a step that does not stop -/
def stepNextG (gl : LevelGen) (o : Opts) (s : FState) : FState :=
  { tbl := (gl (s.gen.getLastD []) (s.currentLevel + 1) s.tbl).1
    gen := s.gen ++ [(gl (s.gen.getLastD []) (s.currentLevel + 1) s.tbl).2]
    levelShells := s.levelShells ++ [unionShells (s.levelShells.getLastD []) (stepAccG gl o s).2]
    past := (stepAccG gl o s).1 }

theorem stepStateG_eq (gl : LevelGen) (o : Opts) (atoms : List Nat) (s : FState) :
    stepStateG gl o atoms s = if stopsG gl o atoms s then none else some (stepNextG gl o s) := by
  have h : stepStateG gl o atoms s =
      if o.level ≠ -1 && (s.currentLevel : Int) ≥ o.level then none
      else if o.removeDup && (s.gen.getLastD []).all (fun x => x.sub.length == atoms.length) then none
      else if (unionShells (s.levelShells.getLastD []) (stepAccG gl o s).2).length
          = (s.levelShells.getLastD []).length then none
      else some (stepNextG gl o s) := by
    unfold stepStateG stepNextG stepAccG
    cases o.removeDup <;> rfl
  rewrite [h]
  unfold stopsG
  cases (o.level ≠ -1 && (s.currentLevel : Int) ≥ o.level)
  · cases (o.removeDup && (s.gen.getLastD []).all (fun x => x.sub.length == atoms.length))
    · simp only [Bool.false_eq_true, if_false, Bool.false_or, beq_iff_eq]
    · rfl
  · rfl

/-! ## one step of the model: the instance `gl := genLevel o m g atoms` -/

/-- the substructures seen after the next level, and the shells `stepState` accepts at it -/
def stepAccepted (o : Opts) (m : MolG) (g : Geo) (atoms : List Nat) (s : FState) :
    List (List Nat) × List GShell :=
  let shells := (genLevel o m g atoms (s.gen.getLastD []) (s.currentLevel + 1) s.tbl).2
  if o.removeDup then dedupShells s.past (sortByLt ltShell shells) else (s.past, sortByLt ltShell shells)

def stops (o : Opts) (m : MolG) (g : Geo) (atoms : List Nat) (s : FState) : Bool :=
  (o.level ≠ -1 && (s.currentLevel : Int) ≥ o.level) ||
  (o.removeDup && (s.gen.getLastD []).all (fun x => x.sub.length == atoms.length)) ||
  (unionShells (s.levelShells.getLastD []) (stepAccepted o m g atoms s).2).length
    == (s.levelShells.getLastD []).length

def stepNext (o : Opts) (m : MolG) (g : Geo) (atoms : List Nat) (s : FState) : FState :=
  { tbl := (genLevel o m g atoms (s.gen.getLastD []) (s.currentLevel + 1) s.tbl).1
    gen := s.gen ++ [(genLevel o m g atoms (s.gen.getLastD []) (s.currentLevel + 1) s.tbl).2]
    levelShells := s.levelShells ++ [unionShells (s.levelShells.getLastD []) (stepAccepted o m g atoms s).2]
    past := (stepAccepted o m g atoms s).1 }

theorem stepState_eq_G (o : Opts) (m : MolG) (g : Geo) (atoms : List Nat) (s : FState) :
    stepState o m g atoms s = stepStateG (genLevel o m g atoms) o atoms s := rfl

theorem stepState_eq (o : Opts) (m : MolG) (g : Geo) (atoms : List Nat) (s : FState) :
    stepState o m g atoms s = if stops o m g atoms s then none else some (stepNext o m g atoms s) :=
  -- `stops`, `stepNext`, `stepAccepted` are `stopsG`, `stepNextG`, `stepAccG` at `genLevel o m g atoms`, written out
  stepStateG_eq (genLevel o m g atoms) o atoms s

theorem stops_iff (o : Opts) (m : MolG) (g : Geo) (atoms : List Nat) (s : FState) :
    stops o m g atoms s = true ↔
      (o.level ≠ -1 ∧ (s.currentLevel : Int) ≥ o.level) ∨
      (o.removeDup = true ∧ (s.gen.getLastD []).all (fun x => x.sub.length == atoms.length) = true) ∨
      (unionShells (s.levelShells.getLastD []) (stepAccepted o m g atoms s).2).length
        = (s.levelShells.getLastD []).length := by
  simp only [stops, Bool.or_eq_true, Bool.and_eq_true, decide_eq_true_eq, beq_iff_eq, or_assoc]

theorem stepState_none_iff (o : Opts) (m : MolG) (g : Geo) (atoms : List Nat) (s : FState) :
    stepState o m g atoms s = none ↔ stops o m g atoms s = true := by
  rewrite [stepState_eq]
  cases stops o m g atoms s <;> simp

theorem stepState_some (o : Opts) (m : MolG) (g : Geo) (atoms : List Nat) (s s' : FState)
    (h : stepState o m g atoms s = some s') : stops o m g atoms s = false ∧ s' = stepNext o m g atoms s := by
  rewrite [stepState_eq] at h
  cases hs : stops o m g atoms s
  · rewrite [hs] at h; exact ⟨rfl, (Option.some.inj h).symm⟩
  · rewrite [hs] at h; cases h

theorem stepNext_grows (o : Opts) (m : MolG) (g : Geo) (atoms : List Nat) (s : FState)
    (h : stops o m g atoms s = false) :
    (unionShells (s.levelShells.getLastD []) (stepAccepted o m g atoms s).2).length
      ≠ (s.levelShells.getLastD []).length := by
  intro e
  rewrite [(stops_iff o m g atoms s).2 (Or.inr (Or.inr e))] at h
  cases h

theorem stepAccepted_subset (o : Opts) (m : MolG) (g : Geo) (atoms : List Nat) (s : FState) :
    ∀ x ∈ (stepAccepted o m g atoms s).2,
      x ∈ (genLevel o m g atoms (s.gen.getLastD []) (s.currentLevel + 1) s.tbl).2 := by
  intro x hx
  unfold stepAccepted at hx
  cases hd : o.removeDup
  · simp only [hd] at hx
    exact (mem_sortByLt _ _ _).1 hx
  · simp only [hd, if_true, dedupShells_eq] at hx
    exact (mem_sortByLt _ _ _).1 ((dedupSpec_sublist _ _).subset hx)

theorem stepAccepted_eq_dedup (o : Opts) (m : MolG) (g : Geo) (atoms : List Nat) (s : FState) (hd : o.removeDup = true) :
    stepAccepted o m g atoms s = dedupShells s.past
      (sortByLt ltShell (genLevel o m g atoms (s.gen.getLastD []) (s.currentLevel + 1) s.tbl).2) := by
  unfold stepAccepted
  rw [if_pos hd]

theorem stepAccepted_past (o : Opts) (m : MolG) (g : Geo) (atoms : List Nat) (s : FState) (hd : o.removeDup = true) :
    (stepAccepted o m g atoms s).1 = s.past ++ (stepAccepted o m g atoms s).2.map (·.sub) := by
  rw [stepAccepted_eq_dedup o m g atoms s hd, dedupShells_eq]

theorem stepAccepted_nodup (o : Opts) (m : MolG) (g : Geo) (atoms : List Nat) (s : FState) (hd : o.removeDup = true) :
    ((stepAccepted o m g atoms s).2.map (·.sub)).Nodup := by
  rewrite [stepAccepted_eq_dedup o m g atoms s hd, dedupShells_eq]
  exact dedupSpec_nodup _ _

theorem stepAccepted_not_past (o : Opts) (m : MolG) (g : Geo) (atoms : List Nat) (s : FState) (hd : o.removeDup = true) :
    ∀ x ∈ (stepAccepted o m g atoms s).2, x.sub ∉ s.past := by
  rewrite [stepAccepted_eq_dedup o m g atoms s hd, dedupShells_eq]
  exact dedupSpec_not_past _ _

/-! ## iteration -/

def iterateG (gl : LevelGen) (o : Opts) (atoms : List Nat) : Nat → FState → FState
  | 0, s => s
  | fuel + 1, s =>
    match stepStateG gl o atoms s with
    | none => s
    | some s' => iterateG gl o atoms fuel s'

theorem iterate_eq_G (o : Opts) (m : MolG) (g : Geo) (atoms : List Nat) (fuel : Nat) (s : FState) :
    iterate o m g atoms fuel s = iterateG (genLevel o m g atoms) o atoms fuel s := by
  induction fuel generalizing s with
  | zero => rfl
  | succ n ih =>
    unfold iterate iterateG
    rewrite [stepState_eq_G]
    generalize stepStateG (genLevel o m g atoms) o atoms s = r
    cases r with
    | none => rfl
    | some s' => exact ih s'

theorem iterate_of_none (o : Opts) (m : MolG) (g : Geo) (atoms : List Nat) (n : Nat) (s : FState)
    (h : stepState o m g atoms s = none) : iterate o m g atoms n s = s := by
  cases n with
  | zero => rfl
  | succ n => dsimp only [iterate]; rw [h]

theorem iterate_succ_some (o : Opts) (m : MolG) (g : Geo) (atoms : List Nat) (n : Nat) (s s' : FState)
    (h : stepState o m g atoms s = some s') : iterate o m g atoms (n + 1) s = iterate o m g atoms n s' := by
  dsimp only [iterate]; rw [h]

theorem iterate_add (o : Opts) (m : MolG) (g : Geo) (atoms : List Nat) (a b : Nat) (s : FState) :
    iterate o m g atoms (a + b) s = iterate o m g atoms b (iterate o m g atoms a s) := by
  induction a generalizing s with
  | zero => rewrite [Nat.zero_add]; rfl
  | succ a ih =>
    cases h : stepState o m g atoms s with
    | none => rw [iterate_of_none _ _ _ _ _ _ h, iterate_of_none _ _ _ _ _ _ h, iterate_of_none _ _ _ _ _ _ h]
    | some s' =>
      rw [Nat.add_right_comm, iterate_succ_some _ _ _ _ _ _ _ h, iterate_succ_some _ _ _ _ _ _ _ h, ih]

theorem iterate_stable (o : Opts) (m : MolG) (g : Geo) (atoms : List Nat) (a b : Nat) (s : FState)
    (h : stepState o m g atoms (iterate o m g atoms a s) = none) (hab : a ≤ b) :
    iterate o m g atoms b s = iterate o m g atoms a s := by
  obtain ⟨d, rfl⟩ := Nat.exists_eq_add_of_le hab
  rw [iterate_add, iterate_of_none _ _ _ _ _ _ h]

theorem iterate_induction (o : Opts) (m : MolG) (g : Geo) (atoms : List Nat) (P : FState → Prop)
    (hstep : ∀ s s', P s → stepState o m g atoms s = some s' → P s') (n : Nat) (s : FState) (h : P s) :
    P (iterate o m g atoms n s) := by
  induction n generalizing s with
  | zero => exact h
  | succ n ih =>
    cases hs : stepState o m g atoms s with
    | none => rewrite [iterate_of_none _ _ _ _ _ _ hs]; exact h
    | some s' => rewrite [iterate_succ_some _ _ _ _ _ _ _ hs]; exact ih s' (hstep s s' h hs)

/-! ## the run: checks, then iteration -/

theorem retained_nodup (o : Opts) (m : MolG) (h : (m.atoms.map (·.idx)).Nodup) : (retained o m).Nodup := by
  unfold retained
  simp only
  split
  · exact h.sublist (List.filter_sublist.map _)
  · exact h.sublist (List.filter_sublist.map _)

def runFpG (gl : List Nat → LevelGen) (o : Opts) (m : MolG) : Except Err FState :=
  if o.level = -1 && !o.removeDup then .error .other
  else if m.bonds.any (fun e => e.2.2 = 0) then .error .key
  else
    let atoms := retained o m
    if atoms = [] then .error .value
    else
      let fuel := if o.level = -1 then 2 ^ atoms.length + 1 else o.level.toNat
      .ok (iterateG (gl atoms) o atoms fuel (initState o m atoms))

theorem runFp_eq_G (o : Opts) (m : MolG) (g : Geo) : runFp o m g = runFpG (genLevel o m g) o m := by
  unfold runFp runFpG
  simp only [iterate_eq_G]

/-- the fuel `runFp` gives the iteration -/
def runFuel (o : Opts) (atoms : List Nat) : Nat := if o.level = -1 then 2 ^ atoms.length + 1 else o.level.toNat

/-- the checks `runFp` makes before iterating -/
def runCheck (o : Opts) (m : MolG) : Option Err :=
  if o.level = -1 && !o.removeDup then some .other
  else if m.bonds.any (fun e => e.2.2 = 0) then some .key
  else if retained o m = [] then some .value
  else none

theorem runFpG_eq (gl : List Nat → LevelGen) (o : Opts) (m : MolG) :
    runFpG gl o m = match runCheck o m with
      | some e => .error e
      | none => .ok (iterateG (gl (retained o m)) o (retained o m) (runFuel o (retained o m))
          (initState o m (retained o m))) := by
  unfold runFpG runCheck runFuel
  by_cases h1 : (decide (o.level = -1) && !o.removeDup) = true
  · rw [if_pos h1, if_pos h1]
  · rewrite [if_neg h1, if_neg h1]
    by_cases h2 : m.bonds.any (fun e => decide (e.2.2 = 0)) = true
    · rw [if_pos h2, if_pos h2]
    · rewrite [if_neg h2, if_neg h2]
      by_cases h3 : retained o m = []
      · simp only [h3, if_true]
      · simp only [h3, if_false]

theorem runCheck_eq_none_iff (o : Opts) (m : MolG) :
    runCheck o m = none ↔
      (o.level = -1 → o.removeDup = true) ∧ (∀ e ∈ m.bonds, e.2.2 ≠ 0) ∧ retained o m ≠ [] := by
  have ite_none : ∀ (c : Prop) [Decidable c] (e : Err) (r : Option Err),
      (if c then some e else r) = none ↔ ¬ c ∧ r = none := by
    intro c _ e r; by_cases h : c <;> simp [h]
  unfold runCheck
  simp only [ite_none, and_true, Bool.and_eq_true, decide_eq_true_eq, Bool.not_eq_true', not_and,
    Bool.not_eq_false, List.any_eq_true, not_exists, ne_eq]

theorem runFp_ok_iff (o : Opts) (m : MolG) (g : Geo) (s : FState) :
    runFp o m g = .ok s ↔
      (o.level = -1 → o.removeDup = true) ∧ (∀ e ∈ m.bonds, e.2.2 ≠ 0) ∧ retained o m ≠ [] ∧
      s = iterate o m g (retained o m) (runFuel o (retained o m)) (initState o m (retained o m)) := by
  rewrite [runFp_eq_G, runFpG_eq, ← iterate_eq_G]
  cases hc : runCheck o m with
  | some e =>
    refine ⟨fun h => (by cases h), fun h => ?_⟩
    rewrite [(runCheck_eq_none_iff o m).2 ⟨h.1, h.2.1, h.2.2.1⟩] at hc
    cases hc
  | none =>
    obtain ⟨a, b, c⟩ := (runCheck_eq_none_iff o m).1 hc
    exact ⟨fun h => ⟨a, b, c, (Except.ok.inj h).symm⟩, fun h => by rw [h.2.2.2]⟩

/-- two runs with the same checks whose iterations from level 0 are related by `R` (for every fuel)
fail with the same error, or end in states related by `R` -/
theorem runFpG_rel (R : FState → FState → Prop) (gl gl' : List Nat → LevelGen) (o : Opts) (m m' : MolG)
    (hb : m'.bonds.any (fun e => e.2.2 = 0) = m.bonds.any (fun e => e.2.2 = 0))
    (hlen : (retained o m').length = (retained o m).length)
    (hit : ∀ n, R (iterateG (gl (retained o m)) o (retained o m) n (initState o m (retained o m)))
      (iterateG (gl' (retained o m')) o (retained o m') n (initState o m' (retained o m')))) :
    (∀ e, runFpG gl o m = .error e → runFpG gl' o m' = .error e) ∧
    (∀ s, runFpG gl o m = .ok s → ∃ s', runFpG gl' o m' = .ok s' ∧ R s s') := by
  have hnil : retained o m' = [] ↔ retained o m = [] := by
    rw [← List.length_eq_zero_iff, hlen, List.length_eq_zero_iff]
  have hc : runCheck o m' = runCheck o m := by
    unfold runCheck
    simp only [hb, hnil]
  have hf : runFuel o (retained o m') = runFuel o (retained o m) := by unfold runFuel; rw [hlen]
  rewrite [runFpG_eq, runFpG_eq, hc, hf]
  cases runCheck o m with
  | some e => exact ⟨fun _ h => h, fun _ h => by cases h⟩
  | none => exact ⟨fun _ h => (by cases h), fun s h => ⟨_, rfl, Except.ok.inj h ▸ hit _⟩⟩

/-- the functional case: the two runs have the same image under `F`, `F'` -/
theorem runFpG_map {β : Type} (F F' : FState → β) (gl gl' : List Nat → LevelGen) (o : Opts) (m m' : MolG)
    (hb : m'.bonds.any (fun e => e.2.2 = 0) = m.bonds.any (fun e => e.2.2 = 0))
    (hlen : (retained o m').length = (retained o m).length)
    (hit : ∀ n, F (iterateG (gl (retained o m)) o (retained o m) n (initState o m (retained o m)))
      = F' (iterateG (gl' (retained o m')) o (retained o m') n (initState o m' (retained o m')))) :
    (runFpG gl o m).map F = (runFpG gl' o m').map F' := by
  obtain ⟨h1, h2⟩ := runFpG_rel (fun s s' => F s = F' s') gl gl' o m m' hb hlen hit
  cases h : runFpG gl o m with
  | error e => rewrite [h1 e h]; rfl
  | ok s =>
    obtain ⟨s', hs', hr⟩ := h2 s h
    rewrite [hs']
    exact congrArg Except.ok hr

/-! ## reading shells and a fingerprint off a state: when it succeeds; when the shells are mapped by `φ` -/

theorem resolveLevel_lt (s : FState) (K : Nat) (h : K < s.levelShells.length) :
    resolveLevel s (some (K : Int)) = K := by
  unfold resolveLevel
  exact (if_pos ⟨Int.natCast_nonneg K, h⟩).trans (Int.toNat_natCast K)

theorem fingerprintAt_eq_ok (o : Opts) (s : FState) (req : Option Int) (bits : Option Nat) (mask : List Nat) (f : Fp) :
    fingerprintAt o s req bits mask = .ok f ↔
      ∃ f₀, fromIndices (if o.counts then .count else .bit)
          ((shellsAt s req mask).map (fun x => (Gen.signedToUnsigned x.ident (Gen.BITS : Nat)).toNat))
          none Gen.BITS (req.getD (-1)) = .ok f₀ ∧ f₀.fold (bits.getD o.bits) 0 = .ok f :=
  bind_eq_ok _ _ f

theorem shellsAt_map (φ : GShell → GShell) {s s' : FState} (hg : s'.gen.length = s.gen.length)
    (hl : s'.levelShells = s.levelShells.map (·.map φ)) (req : Option Int) (mask mask' : List Nat)
    (hm : ∀ l ∈ s.levelShells, ∀ x ∈ l,
      (φ x).sub.any (fun a => mask'.contains a) = x.sub.any (fun a => mask.contains a)) :
    shellsAt s' req mask' = (shellsAt s req mask).map φ := by
  have hr : resolveLevel s' req = resolveLevel s req := by
    unfold resolveLevel FState.currentLevel
    rw [hg, hl, List.length_map]
  unfold shellsAt
  rewrite [hr, hl, getD_map_fix (List.map φ) List.map_nil, List.filter_map]
  refine congrArg (List.map φ) (List.filter_congr ?_)
  intro x hx
  rewrite [List.getD_eq_getElem?_getD] at hx
  cases hk : s.levelShells[resolveLevel s req]? with
  | none => rewrite [hk] at hx; cases hx
  | some l =>
    rewrite [hk] at hx
    simp only [Function.comp, hm l (List.mem_of_getElem? hk) x hx]

theorem fingerprintAt_map (φ : GShell → GShell) (hid : ∀ x, (φ x).ident = x.ident) (o : Opts) {s s' : FState}
    (hg : s'.gen.length = s.gen.length) (hl : s'.levelShells = s.levelShells.map (·.map φ))
    (req : Option Int) (bits : Option Nat) (mask mask' : List Nat)
    (hm : ∀ l ∈ s.levelShells, ∀ x ∈ l,
      (φ x).sub.any (fun a => mask'.contains a) = x.sub.any (fun a => mask.contains a)) :
    fingerprintAt o s' req bits mask' = fingerprintAt o s req bits mask := by
  unfold fingerprintAt
  have hc : (fun x : GShell => (Gen.signedToUnsigned x.ident (Gen.BITS : Nat)).toNat) ∘ φ
      = fun x => (Gen.signedToUnsigned x.ident (Gen.BITS : Nat)).toNat := funext (fun x => by rw [Function.comp, hid])
  rw [shellsAt_map φ hg hl req mask mask' hm, List.map_map, hc]

/-! ## the run reads the geometry only on the atoms it works on -/

theorem Geo.ext {g₁ g₂ : Geo} (hw : g₁.within = g₂.within) (hs : g₁.stereo = g₂.stereo) : g₁ = g₂ := by
  cases g₁; cases g₂; simp_all

/-- `atomTuples` consults `stereo` once, for the centre and tuples over the neighbours it is given -/
theorem atomTuples_congr (o : Opts) (m : MolG) (g₁ g₂ : Geo) (prev : List GShell) (a : Nat) (nb : List Nat)
    (hs : ∀ l : List (Nat × Int × Nat), (∀ t ∈ l, t.2.2 ∈ nb) → g₁.stereo a l = g₂.stereo a l) :
    atomTuples o m g₁ prev a nb = atomTuples o m g₂ prev a nb := by
  have h := hs (sortByLt lt3 (nb.map (fun b => (conn m a b, (shellOf prev b).ident, b)))) (by
    intro t ht
    rewrite [mem_sortByLt, List.mem_map] at ht
    obtain ⟨b, hb, rfl⟩ := ht
    exact hb)
  simp only [atomTuples, h]

theorem genLevel_congr {o : Opts} {m : MolG} {g₁ g₂ : Geo} {atoms : List Nat}
    (hw : ∀ k, ∀ a ∈ atoms, ∀ b ∈ atoms, g₁.within k a b = g₂.within k a b)
    (h : ∀ prev, ∀ a ∈ atoms, ∀ nb, (∀ b ∈ nb, b ∈ atoms ∧ b ≠ a) →
      atomTuples o m g₁ prev a nb = atomTuples o m g₂ prev a nb) :
    genLevel o m g₁ atoms = genLevel o m g₂ atoms := by
  funext prev k t
  unfold genLevel
  apply foldl_congr_mem
  intro acc a ha
  have hf : atoms.filter (fun b => b != a && g₁.within k a b && (o.includeDisconnected || bonded m a b))
      = atoms.filter (fun b => b != a && g₂.within k a b && (o.includeDisconnected || bonded m a b)) :=
    List.filter_congr (fun b hb => by rw [hw k a ha b hb])
  rewrite [hf]
  simp only [shellIdent]
  rw [h prev a ha]
  intro b hb
  rewrite [List.mem_filter] at hb
  have := hb.2
  simp only [Bool.and_eq_true, bne_iff_ne, ne_eq] at this
  exact ⟨hb.1, this.1.1⟩

/-- two geometries that agree on the atoms the run works on - `within` between two of them,
`atomTuples` for one of them as centre and others as neighbours - give the same run -/
theorem runFp_congr {o : Opts} {m : MolG} {g₁ g₂ : Geo}
    (hw : ∀ k, ∀ a ∈ retained o m, ∀ b ∈ retained o m, g₁.within k a b = g₂.within k a b)
    (h : ∀ prev, ∀ a ∈ retained o m, ∀ nb, (∀ b ∈ nb, b ∈ retained o m ∧ b ≠ a) →
      atomTuples o m g₁ prev a nb = atomTuples o m g₂ prev a nb) :
    runFp o m g₁ = runFp o m g₂ := by
  rw [runFp_eq_G, runFp_eq_G, runFpG_eq, runFpG_eq, genLevel_congr hw h]

end E3fpVerif
