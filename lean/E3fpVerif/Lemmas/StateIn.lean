import E3fpVerif.Lemmas.Fprinter
/-!
# No atom outside `atoms` enters a state

Every atom index a run on `atoms` stores (shell centres, substructures, the centres of the table's keys)
is in `atoms`: `StateIn`, kept by `initState_in`, `stepState_in`, `iterate_in`.  The names are in the namespace
`Mono` they share with `Lemmas/MonoRelabel.lean` (renumbering the retained atoms), which is built on them.
-/
namespace E3fpVerif.Mono
open E3fpVerif Rl

def ShellIn (atoms : List Nat) (x : GShell) : Prop := x.atom ∈ atoms ∧ ∀ a ∈ x.sub, a ∈ atoms

theorem genLevel_in (o : Opts) (m : MolG) (g : Geo) {atoms : List Nat} {prev : List GShell}
    (hprev : ∀ x ∈ prev, ShellIn atoms x) (k : Nat) {t : Intern} (ht : ∀ x ∈ t, x.1 ∈ atoms) :
    (∀ x ∈ (genLevel o m g atoms prev k t).1, x.1 ∈ atoms) ∧
      ∀ x ∈ (genLevel o m g atoms prev k t).2, ShellIn atoms x := by
  rewrite [genLevel_eq_map]
  exact ⟨forall_mem_internAll ht (List.forall_mem_map.2 (fun _ ha => ha)),
    List.forall_mem_map.2 (fun a ha =>
      ⟨ha, genShellT_sub_subset o m g atoms prev (fun x hx => (hprev x hx).2) k _ a ha⟩)⟩

theorem genLevel0_in (o : Opts) (m : MolG) (atoms : List Nat) (t : Intern) (ht : ∀ x ∈ t, x.1 ∈ atoms) :
    (∀ x ∈ (genLevel0 o m atoms t).1, x.1 ∈ atoms) ∧ ∀ x ∈ (genLevel0 o m atoms t).2, ShellIn atoms x := by
  rewrite [genLevel0_eq_map]
  exact ⟨forall_mem_internAll ht (List.forall_mem_map.2 (fun _ ha => ha)),
    List.forall_mem_map.2 (fun _ ha => ⟨ha, List.forall_mem_singleton.2 ha⟩)⟩

structure StateIn (atoms : List Nat) (s : FState) : Prop where
  tbl : ∀ x ∈ s.tbl, x.1 ∈ atoms
  gen : ∀ l ∈ s.gen, ∀ x ∈ l, ShellIn atoms x
  levelShells : ∀ l ∈ s.levelShells, ∀ x ∈ l, ShellIn atoms x
  past : ∀ p ∈ s.past, ∀ a ∈ p, a ∈ atoms

theorem initState_in (o : Opts) (m : MolG) (atoms : List Nat) : StateIn atoms (initState o m atoms) := by
  obtain ⟨h1, h2⟩ := genLevel0_in o m atoms [] (by intro x hx; cases hx)
  exact ⟨h1, List.forall_mem_singleton.2 h2, List.forall_mem_singleton.2 h2,
    List.forall_mem_map.2 (fun x hx => (h2 x hx).2)⟩

theorem stepState_in {o : Opts} {m : MolG} {g : Geo} {atoms : List Nat} {s : FState} (hs : StateIn atoms s)
    {s' : FState} (h : stepState o m g atoms s = some s') : StateIn atoms s' := by
  rewrite [(stepState_some o m g atoms s s' h).2]
  obtain ⟨hin1, hin2⟩ := genLevel_in o m g (getLastD_in hs.gen) (s.currentLevel + 1) hs.tbl
  have hacc : ∀ x ∈ (stepAccepted o m g atoms s).2, ShellIn atoms x :=
    fun x hx => hin2 x (stepAccepted_subset o m g atoms s x hx)
  refine ⟨hin1, List.forall_mem_append.2 ⟨hs.gen, List.forall_mem_singleton.2 hin2⟩,
    List.forall_mem_append.2 ⟨hs.levelShells, List.forall_mem_singleton.2 (fun x hx =>
      (unionShells_mem _ _ x hx).elim (getLastD_in hs.levelShells x) (hacc x))⟩, ?_⟩
  show ∀ p ∈ (stepAccepted o m g atoms s).1, _
  cases hd : o.removeDup
  · simp only [stepAccepted, hd, Bool.false_eq_true, if_false]
    exact hs.past
  · rewrite [stepAccepted_past o m g atoms s hd]
    exact List.forall_mem_append.2 ⟨hs.past, List.forall_mem_map.2 (fun x hx => (hacc x hx).2)⟩

theorem iterate_in (o : Opts) (m : MolG) (g : Geo) {atoms : List Nat}
    (fuel : Nat) {s : FState} (hs : StateIn atoms s) : StateIn atoms (iterate o m g atoms fuel s) :=
  iterate_induction o m g atoms (StateIn atoms) (fun _ _ hs h => stepState_in hs h) fuel s hs

end E3fpVerif.Mono
