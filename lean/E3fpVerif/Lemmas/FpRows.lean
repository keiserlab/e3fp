import E3fpVerif.Lemmas.Dense
import E3fpVerif.Lemmas.FpAux
/-!
# Fingerprint measures on count dictionaries versus the definitions on matrix rows
-/
namespace E3fpVerif.C06L

/-- the matrix row of a fingerprint: its counts on its indices (1 on the bits of a bit fingerprint) -/
def cntRow (f : Fp) : Row := f.idx.map (fun i => (i, f.count i))

theorem cntRow_cols (f : Fp) : (cntRow f).map Prod.fst = f.idx := map_fst_graph f.idx f.count

theorem rowVal_cntRow (f : Fp) (hf : f.WF) (k : Nat) : rowVal (cntRow f) k = f.count k := by
  unfold cntRow rowVal
  rewrite [lookupQ_graph]
  by_cases h : k ∈ f.idx
  · rw [if_pos h]
  · rw [if_neg h, Fp.count_of_not_mem f hf k h]

theorem unionCols_cntRow (f g : Fp) : unionCols (cntRow f) (cntRow g) = uniq (f.idx ++ g.idx) := by
  unfold unionCols; rw [cntRow_cols, cntRow_cols]

theorem rowCols_cntRow (f : Fp) (hf : f.WF) : rowCols (cntRow f) = f.idx := by
  unfold rowCols; rw [cntRow_cols, uniq_of_strictAsc _ hf.1]

/-- `Σ_{i ∈ f.idx} f_i · g_i = X·Yᵀ` -/
theorem fpDot_eq_dotQ (f g : Fp) (hf : f.WF) (hg : g.WF) : fpDot f g = dotQ (cntRow f) (cntRow g) := by
  unfold fpDot dotQ
  rewrite [List.map_congr_left (l := unionCols (cntRow f) (cntRow g))
      (fun k _ => by rw [rowVal_cntRow f hf, rowVal_cntRow g hg]),
    sumQ_filter_of_zero (unionCols (cntRow f) (cntRow g)) (fun i => decide (i ∈ f.idx))]
  · rw [filter_mem_eq _ _ (strictAsc_unionCols _ _) hf.1]
    intro i hi
    rewrite [unionCols_cntRow, mem_uniq]; exact List.mem_append_left _ hi
  · intro i _ hi
    rw [Fp.count_of_not_mem f hf i (of_decide_eq_false hi), Rat.zero_mul]

theorem fpSq_eq_dotQ (f : Fp) (hf : f.WF) : fpSq f = dotQ (cntRow f) (cntRow f) :=
  fpDot_eq_dotQ f f hf hf

theorem fpSumC_eq_rowSum (f : Fp) (hf : f.WF) : fpSumC f = rowSum (cntRow f) := by
  unfold fpSumC rowSum
  rewrite [rowCols_cntRow f hf]
  congr 1
  exact List.map_congr_left (fun k _ => (rowVal_cntRow f hf k).symm)

theorem count_bit (f : Fp) (h : f.kind = .bit) {i : Nat} (hi : i ∈ f.idx) : f.count i = 1 := by
  rw [Fp.count_of_bit f h, if_pos hi]

theorem cntRow_bit (f : Fp) (h : f.kind = .bit) : cntRow f = f.idx.map (fun i => (i, (1 : Rat))) :=
  List.map_congr_left fun i hi => by rw [count_bit f h hi]

end E3fpVerif.C06L
