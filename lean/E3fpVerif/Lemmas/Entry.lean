import E3fpVerif.Model.Entry
/-!
# Lemmas for the entry-point property (`Props/C14Entry.lean`)

`Option`-valued `List.mapM` read through `omapM_eq_some`; the cells `fpCell` / `specCell` of loop and
specification; `collectLevels` key by key (`collectLevels_cons`) on a dictionary whose keys are exactly the
level keys, or which is still empty (`collectLevels_shape`).
-/
namespace E3fpVerif

section omapM
variable {α β : Type}

theorem omapM_cons (f : α → Option β) (a : α) (l : List α) :
    (a :: l).mapM f = (f a).bind fun b => (l.mapM f).map (b :: ·) := by
  rewrite [List.mapM_cons]
  cases f a with
  | none => rfl
  | some b => cases l.mapM f <;> rfl

/-- success means: every element maps to `some`, and the result collects the values; the facts below
read off this one -/
theorem omapM_eq_some (f : α → Option β) (l : List α) (r : List β) :
    l.mapM f = some r ↔ l.map f = r.map some := by
  induction l generalizing r with
  | nil => cases r <;> simp
  | cons a l ih =>
    rewrite [omapM_cons, List.map_cons]
    cases r with
    | nil => simp [Option.bind_eq_some_iff]
    | cons c r =>
      simp only [Option.bind_eq_some_iff, Option.map_eq_some_iff, ih, List.map_cons, List.cons.injEq]
      constructor
      · rintro ⟨b, hb, bs, hbs, rfl, rfl⟩
        exact ⟨hb, hbs⟩
      · rintro ⟨hb, hbs⟩
        exact ⟨c, hb, r, hbs, rfl, rfl⟩

theorem omapM_some_map (f : α → Option β) (g : α → β) (l : List α)
    (h : ∀ x ∈ l, f x = some (g x)) : l.mapM f = some (l.map g) := by
  rewrite [omapM_eq_some, List.map_map]
  exact List.map_congr_left h

theorem omapM_none_of_mem (f : α → Option β) (l : List α) (x : α) (hx : x ∈ l)
    (h : f x = none) : l.mapM f = none := by
  cases hr : l.mapM f with
  | none => rfl
  | some r =>
    have : f x ∈ r.map some := (omapM_eq_some f l r).1 hr ▸ List.mem_map_of_mem hx
    simp [h] at this

end omapM

/-- the named fingerprint at key `k` of a finished run on conformer `j` -/
def fpCell (o : Opts) (s : FState) (name : Option (List Char)) (j : Nat) (k : Int) : Option NamedFp :=
  match fingerprintAt o s (some k) none [] with
  | .ok f => some { fp := f, name := name.map (fun n => confName n j) }
  | .error _ => none

/-- the same from a fresh fingerprinter run on the geometry `p.1`, conformer index `p.2` -/
def specCell (o : Opts) (m : MolG) (name : Option (List Char)) (k : Int) (p : Geo × Nat) : Option NamedFp :=
  match runFp o m p.1 with
  | .ok s => fpCell o s name p.2 k
  | .error _ => none

section
variable {o : Opts} {m : MolG} {name : Option (List Char)} {k : Int} {g : Geo} {j : Nat} {s : FState}

theorem specCell_ok (h : runFp o m g = .ok s) : specCell o m name k (g, j) = fpCell o s name j k := by
  unfold specCell; simp only [h]

theorem specCell_err {e : Err} (h : runFp o m g = .error e) : specCell o m name k (g, j) = none := by
  unfold specCell; simp only [h]

end

theorem dictAppend_append (A B : LevelDict) (k : Int) (x : NamedFp) (h : ∀ p ∈ A, p.1 ≠ k) :
    dictAppend (A ++ B) k x = A ++ dictAppend B k x := by
  induction A with
  | nil => rfl
  | cons p A ih =>
    obtain ⟨a, l⟩ := p
    have ha : ¬ a = k := h (a, l) List.mem_cons_self
    rw [List.cons_append, dictAppend, if_neg ha, ih fun p hp => h p (List.mem_cons_of_mem _ hp), List.cons_append]

section
variable {o : Opts} {s : FState} {keys : List Int} {name : Option (List Char)} {j : Nat} {d : LevelDict}

theorem collectLevels_cons {k : Int} : collectLevels o s (k :: keys) name j d =
    (fpCell o s name j k).bind fun x => collectLevels o s keys name j (dictAppend d k x) := by
  unfold collectLevels fpCell
  rewrite [List.foldl_cons]
  cases fingerprintAt o s (some k) none [] with
  | ok f => rfl
  | error e =>
    -- once a fetch has failed the fold stays at `none`
    induction keys with
    | nil => rfl
    | cons k' ks ih => exact ih

theorem collectLevels_none {k : Int} (hk : k ∈ keys) (h : fpCell o s name j k = none) :
    collectLevels o s keys name j d = none := by
  induction keys generalizing d with
  | nil => cases hk
  | cons k' ks ih =>
    rewrite [collectLevels_cons]
    rcases List.mem_cons.1 hk with rfl | hk'
    · rewrite [h]; rfl
    · cases fpCell o s name j k' with
      | none => rfl
      | some x => exact ih hk'

/-- `collectLevels` when every key `k` has the cell `x k`: `A` holds the keys already done, `B post` the part of
the dictionary for the keys still to come: their entries, or nothing while the dictionary is still empty
(`hB` is what one `dictAppend` does to it in either case). -/
theorem collectLevels_append (x : Int → NamedFp) (col : Int → List NamedFp) (B : List Int → LevelDict)
    (hB : ∀ k ks v, dictAppend (B (k :: ks)) k v = (k, col k ++ [v]) :: B ks)
    (post : List Int) (A : LevelDict) (hA : ∀ k ∈ post, ∀ p ∈ A, p.1 ≠ k) (hnd : post.Nodup)
    (hall : ∀ k ∈ post, fpCell o s name j k = some (x k)) :
    collectLevels o s post name j (A ++ B post)
      = some (A ++ post.map (fun k => (k, col k ++ [x k])) ++ B []) := by
  induction post generalizing A with
  | nil => rewrite [List.map_nil, List.append_nil]; rfl
  | cons k ks ih =>
    obtain ⟨hk, hnd'⟩ := List.nodup_cons.1 hnd
    rewrite [collectLevels_cons, hall k List.mem_cons_self, Option.bind_some,
      dictAppend_append A _ k _ (hA k List.mem_cons_self), hB,
      List.append_cons, ih _ ?_ hnd' fun k' hk' => hall k' (List.mem_cons_of_mem _ hk')]
    · rw [List.map_cons, List.append_assoc A, List.singleton_append]
    · intro k' hk' p hp
      rcases List.mem_append.1 hp with hp | hp
      · exact hA k' (List.mem_cons_of_mem _ hk') p hp
      · rewrite [List.mem_singleton.1 hp]
        exact fun (e : k = k') => hk (e ▸ hk')

/-- the dictionary is either still empty or has exactly the keys `keys`, key `k` holding `col k` -/
def DictShape (keys : List Int) (d : LevelDict) (col : Int → List NamedFp) : Prop :=
  d = keys.map (fun k => (k, col k)) ∨ (d = [] ∧ ∀ k, col k = [])

theorem collectLevels_shape {x : Int → NamedFp} {col : Int → List NamedFp} (hnd : keys.Nodup)
    (hd : DictShape keys d col) (hall : ∀ k ∈ keys, fpCell o s name j k = some (x k)) :
    collectLevels o s keys name j d = some (keys.map (fun k => (k, col k ++ [x k]))) := by
  rcases hd with rfl | ⟨rfl, hcol⟩
  · simpa only [List.nil_append, List.map_nil, List.append_nil] using
      collectLevels_append x col (fun ks => ks.map fun k => (k, col k))
      (fun k ks v => if_pos rfl) keys [] (fun _ _ _ hp => (List.not_mem_nil hp).elim) hnd hall
  · simpa only [List.nil_append, List.append_nil] using collectLevels_append x col (fun _ => [])
      (fun k ks v => by rewrite [hcol]; rfl) keys [] (fun _ _ _ hp => (List.not_mem_nil hp).elim) hnd hall

end

end E3fpVerif
