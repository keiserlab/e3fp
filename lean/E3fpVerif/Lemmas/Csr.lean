import E3fpVerif.Model.Csr
import E3fpVerif.Lemmas.MergeSD
/-!
# The CSR index walk of `_sparse_soergel` computes `mergeSD` of the rows the arrays denote

Helper lemmas for `Props/C06Csr.lean`.  Nothing here needs sorted rows, nor the length clauses of
`Csr.WF`: the only fact about `indptr` that is used is `indptr[i] ≤ indptr[i+1]` for the two rows read.
-/
namespace E3fpVerif.CsrL
open E3fpVerif E3fpVerif.C06L

/-! ## slices -/

theorem slice_nil (m : Csr) (s e : Nat) (h : e ≤ s) : m.slice s e = [] := by
  unfold Csr.slice
  rewrite [Nat.sub_eq_zero_of_le h]
  rfl

theorem slice_cons (m : Csr) (s e : Nat) (h : s < e) :
    m.slice s e = (m.indices.getD s 0, m.data.getD s 0) :: m.slice (s + 1) e := by
  unfold Csr.slice
  rewrite [← Nat.succ_pred_eq_of_pos (Nat.sub_pos_of_lt h), List.range'_succ, Nat.pred_eq_sub_one, Nat.sub_sub]
  rfl

theorem slice_eq_nil_iff (m : Csr) (s e : Nat) : m.slice s e = [] ↔ e ≤ s := by
  constructor
  · intro h
    apply Nat.le_of_not_lt
    intro hlt
    rewrite [slice_cons m s e hlt] at h
    exact List.cons_ne_nil _ _ h
  · exact slice_nil m s e

theorem slice_length (m : Csr) (s e : Nat) : (m.slice s e).length = e - s := by
  simp only [Csr.slice, List.length_map, List.length_range']

/-- a denoted row is empty exactly when the kernel's shortcut test fires -/
theorem row_eq_nil_iff (m : Csr) (i : Nat) (h : m.indptr.getD i 0 ≤ m.indptr.getD (i + 1) 0) :
    m.row i = [] ↔ m.indptr.getD i 0 = m.indptr.getD (i + 1) 0 := by
  unfold Csr.row
  rewrite [slice_eq_nil_iff]
  exact ⟨Nat.le_antisymm h, fun e => Nat.le_of_eq e.symm⟩

/-! ## well-formedness gives the `indptr` step -/

theorem indptr_step {m : Csr} {ncols : Nat} (h : m.WF ncols) {i : Nat} (hi : i < m.nrows) :
    m.indptr.getD i 0 ≤ m.indptr.getD (i + 1) 0 := by
  have h2 := Nat.add_lt_of_lt_sub hi
  have h1 := Nat.lt_of_succ_lt h2
  rewrite [List.getD_eq_getElem?_getD, List.getD_eq_getElem?_getD,
         List.getElem?_eq_getElem h1, List.getElem?_eq_getElem h2]
  exact (List.pairwise_iff_getElem.mp h.2.2.1) i (i + 1) h1 h2 (Nat.lt_succ_self i)

/-! ## the tail loops -/

/-- the loops add to an accumulator on the right, `mergeSD` adds on the left -/
theorem add_add_swap (a v s : Rat) : a + v + s = a + (s + v) := by rw [Rat.add_assoc, Rat.add_comm v]

/-- a tail loop adds what `mergeSD` adds once the other row is exhausted (by `mergeSD_symm`, on either side) -/
theorem tailLoop_eq (m : Csr) (jend j : Nat) (acc : Rat × Rat) :
    Csr.tailLoop m.data jend j acc
      = (acc.1 + (mergeSD (m.slice j jend) []).1, acc.2 + (mergeSD (m.slice j jend) []).2) := by
  fun_induction Csr.tailLoop m.data jend j acc with
  | case1 j acc h ih =>
    rewrite [ih, slice_cons m j jend h, mergeSD_cons_nil]
    exact Prod.ext (add_add_swap ..) (add_add_swap ..)
  | case2 j acc h =>
    rewrite [slice_nil m j jend (Nat.not_lt.1 h), mergeSD_nil_nil]
    simp [Rat.add_zero]

theorem tailLoop_done (data : List Rat) (jend j : Nat) (acc : Rat × Rat) (h : jend ≤ j) :
    Csr.tailLoop data jend j acc = acc := by
  rw [Csr.tailLoop, if_neg (Nat.not_lt.2 h)]

/-! ## the three loops together -/

/-- the two tail loops, run from the state the merge loop exits with -/
def tails (X Y : Csr) (jxend jyend : Nat) (st : Csr.LoopSt) : Rat × Rat :=
  Csr.tailLoop Y.data jyend st.jy (Csr.tailLoop X.data jxend st.jx (st.sumAbsDiff, st.sumMax))

/-- **loop invariant**: from any state the three loops add to the accumulators exactly `mergeSD` of the
two remaining slices -/
theorem loops_eq (X Y : Csr) (jxend jyend : Nat) (st : Csr.LoopSt) :
    tails X Y jxend jyend (Csr.mergeLoop X Y jxend jyend st)
      = (st.sumAbsDiff + (mergeSD (X.slice st.jx jxend) (Y.slice st.jy jyend)).1,
         st.sumMax + (mergeSD (X.slice st.jx jxend) (Y.slice st.jy jyend)).2) := by
  fun_induction Csr.mergeLoop X Y jxend jyend st with
  | case1 st h jxind jyind hlt ih =>
    rewrite [ih, slice_cons X st.jx jxend h.1, slice_cons Y st.jy jyend h.2, mergeSD_cons_cons, if_pos hlt]
    exact Prod.ext (add_add_swap ..) (add_add_swap ..)
  | case2 st h jxind jyind hlt hgt ih =>
    rewrite [ih, slice_cons X st.jx jxend h.1, slice_cons Y st.jy jyend h.2, mergeSD_cons_cons,
           if_neg hlt, if_pos hgt]
    exact Prod.ext (add_add_swap ..) (add_add_swap ..)
  | case3 st h jxind jyind hlt hgt diff hd ih =>
    rewrite [ih, slice_cons X st.jx jxend h.1, slice_cons Y st.jy jyend h.2, mergeSD_cons_cons,
           if_neg hlt, if_neg hgt, if_pos hd]
    exact Prod.ext (add_add_swap ..) (add_add_swap ..)
  | case4 st h jxind jyind hlt hgt diff hd ih =>
    rewrite [ih, slice_cons X st.jx jxend h.1, slice_cons Y st.jy jyend h.2, mergeSD_cons_cons,
           if_neg hlt, if_neg hgt, if_neg hd, Rat.sub_eq_add_neg, Rat.sub_eq_add_neg _ diff]
    exact Prod.ext (add_add_swap ..) (add_add_swap ..)
  | case5 st h =>
    unfold tails
    by_cases hx : st.jx < jxend
    · have hy : jyend ≤ st.jy := Nat.not_lt.1 fun hy => h ⟨hx, hy⟩
      rw [tailLoop_done _ _ _ _ hy, tailLoop_eq, slice_nil Y _ _ hy]
    · have hx' : jxend ≤ st.jx := Nat.not_lt.1 hx
      rw [tailLoop_done _ _ _ _ hx', tailLoop_eq, slice_nil X _ _ hx', mergeSD_symm]

/-- the entry in terms of the denoted rows, from the two `indptr` steps alone -/
theorem soergelEntry_eq_rows_of_step (X Y : Csr) (ix iy : Nat)
    (hX : X.indptr.getD ix 0 ≤ X.indptr.getD (ix + 1) 0)
    (hY : Y.indptr.getD iy 0 ≤ Y.indptr.getD (iy + 1) 0) :
    X.soergelEntry Y ix iy =
      (if X.row ix = [] ∨ Y.row iy = [] then 0
       else
         let r := mergeSD (X.row ix) (Y.row iy)
         if r.2 = 0 then 0 else 1 - r.1 / r.2) := by
  unfold Csr.soergelEntry
  by_cases h1 : X.indptr.getD ix 0 = X.indptr.getD (ix + 1) 0
  · rw [if_pos h1, if_pos (Or.inl ((row_eq_nil_iff X ix hX).2 h1))]
  · by_cases h2 : Y.indptr.getD iy 0 = Y.indptr.getD (iy + 1) 0
    · rw [if_neg h1, if_pos h2, if_pos (Or.inr ((row_eq_nil_iff Y iy hY).2 h2))]
    · have h := loops_eq X Y (X.indptr.getD (ix + 1) 0) (Y.indptr.getD (iy + 1) 0)
        ⟨X.indptr.getD ix 0, Y.indptr.getD iy 0, 0, 0⟩
      unfold tails at h
      rewrite [if_neg h1, if_neg h2, if_neg (not_or.2 ⟨mt (row_eq_nil_iff X ix hX).1 h1, mt (row_eq_nil_iff Y iy hY).1 h2⟩)]
      simp only [h, Rat.zero_add]
      rfl

end E3fpVerif.CsrL
