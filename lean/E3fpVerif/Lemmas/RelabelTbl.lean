import Mathlib.Data.List.Basic
import E3fpVerif.Lemmas.RelabelAux
/-!
# The intern tables of two runs whose atoms are relabelled by `π`

Corresponding keys sit at ids related by a partial bijection `S` (`TblRel`); interning corresponding
keys, in whatever order, keeps the tables related (`intern_relabel`).
-/
namespace E3fpVerif.Rl
open E3fpVerif

/-- a relation between ids that is a partial bijection -/
def BiUnique (S : Nat → Nat → Prop) : Prop := ∀ i j i' j', S i j → S i' j' → (i = i' ↔ j = j')

/-- keys correspond: the centre is mapped by `π`, the member ids correspond as sets under `S` -/
def KRel (π : Nat → Nat) (S : Nat → Nat → Prop) (k k' : Key) : Prop :=
  k'.1 = π k.1 ∧ (∀ i ∈ k.2, ∃ j ∈ k'.2, S i j) ∧ (∀ j ∈ k'.2, ∃ i ∈ k.2, S i j)

theorem KRel.mono {π : Nat → Nat} {S S₂ : Nat → Nat → Prop} (h : ∀ i j, S i j → S₂ i j) {k k' : Key}
    (hk : KRel π S k k') : KRel π S₂ k k' := by
  obtain ⟨h1, h2, h3⟩ := hk
  refine ⟨h1, ?_, ?_⟩
  · intro i hi; obtain ⟨j, hj, hs⟩ := h2 i hi; exact ⟨j, hj, h _ _ hs⟩
  · intro j hj; obtain ⟨i, hi, hs⟩ := h3 j hj; exact ⟨i, hi, h _ _ hs⟩

theorem BiUnique.flip {S : Nat → Nat → Prop} (hS : BiUnique S) : BiUnique (fun j i => S i j) :=
  fun j i j' i' h h' => (hS i j i' j' h h').symm

/-- member sets that both correspond to `l` under a partial bijection are contained in one another -/
theorem BiUnique.subset {S : Nat → Nat → Prop} (hS : BiUnique S) {l l₁' l₂' : List Nat}
    (h1 : ∀ j ∈ l₁', ∃ i ∈ l, S i j) (h2 : ∀ i ∈ l, ∃ j ∈ l₂', S i j) : ∀ j ∈ l₁', j ∈ l₂' := by
  intro j hj
  obtain ⟨i, hi, hs⟩ := h1 j hj
  obtain ⟨j2, hj2, hs2⟩ := h2 i hi
  rewrite [(hS i j i j2 hs hs2).1 rfl]; exact hj2

theorem KRel.eq_iff {π : Nat → Nat} (hinj : ∀ a b, π a = π b → a = b) {S : Nat → Nat → Prop} (hS : BiUnique S)
    {k1 k2 k1' k2' : Key} (h1 : KRel π S k1 k1') (h2 : KRel π S k2 k2')
    (a1 : StrictAsc k1.2) (a2 : StrictAsc k2.2) (a1' : StrictAsc k1'.2) (a2' : StrictAsc k2'.2) :
    k1 = k2 ↔ k1' = k2' := by
  constructor
  · intro e; subst e
    apply Prod.ext
    · exact h1.1.trans h2.1.symm
    · exact strictAsc_ext _ _ a1' a2' (fun j => ⟨hS.subset h1.2.2 h2.2.1 j, hS.subset h2.2.2 h1.2.1 j⟩)
  · intro e; subst e
    apply Prod.ext
    · exact hinj _ _ (h1.1.symm.trans h2.1)
    · exact strictAsc_ext _ _ a1 a2 (fun i => ⟨hS.flip.subset h1.2.1 h2.2.2 i, hS.flip.subset h2.2.1 h1.2.2 i⟩)

/-- ids that point at corresponding keys of two duplicate-free tables are in bijection: equal ids hold
the same key, corresponding keys are equal together (`KRel.eq_iff`), and a key has one id -/
theorem biUnique_of_keys {π : Nat → Nat} (hinj : ∀ a b, π a = π b → a = b) {S S₂ : Nat → Nat → Prop}
    (hS : BiUnique S) {T T' : Intern} (hnd : T.Nodup) (hnd' : T'.Nodup)
    (hasc : ∀ k ∈ T, StrictAsc k.2) (hasc' : ∀ k ∈ T', StrictAsc k.2)
    (hrel : ∀ i j, S₂ i j → ∃ k k', T[i]? = some k ∧ T'[j]? = some k' ∧ KRel π S k k') : BiUnique S₂ := by
  intro i j i2 j2 h1 h2
  obtain ⟨k, k', e1, e1', hk⟩ := hrel i j h1
  obtain ⟨k2, k2', e2, e2', hk2⟩ := hrel i2 j2 h2
  have hiff := KRel.eq_iff hinj hS hk hk2 (hasc k (List.mem_of_getElem? e1)) (hasc k2 (List.mem_of_getElem? e2))
    (hasc' k' (List.mem_of_getElem? e1')) (hasc' k2' (List.mem_of_getElem? e2'))
  constructor
  · intro e
    rewrite [e, e2] at e1
    rewrite [← hiff.1 (Option.some.inj e1).symm] at e2'
    exact (idxOf_of_getElem? hnd' e1').symm.trans (idxOf_of_getElem? hnd' e2')
  · intro e
    rewrite [e, e2'] at e1'
    rewrite [← hiff.2 (Option.some.inj e1').symm] at e2
    exact (idxOf_of_getElem? hnd e1).symm.trans (idxOf_of_getElem? hnd e2)

/-- the tables of two runs correspond under the id relation `S` -/
structure TblRel (π : Nat → Nat) (S : Nat → Nat → Prop) (t t' : Intern) : Prop where
  bi : BiUnique S
  nd : t.Nodup
  nd' : t'.Nodup
  asc : ∀ k ∈ t, StrictAsc k.2
  asc' : ∀ k ∈ t', StrictAsc k.2
  rel : ∀ i j, S i j → ∃ k k', t[i]? = some k ∧ t'[j]? = some k' ∧ KRel π S k k'

theorem TblRel.empty (π : Nat → Nat) : TblRel π (fun _ _ => False) [] [] :=
  ⟨fun _ _ _ _ h => h.elim, List.nodup_nil, List.nodup_nil, fun _ h => absurd h List.not_mem_nil,
    fun _ h => absurd h List.not_mem_nil, fun _ _ h => h.elim⟩

/-- the id relation after interning the keys of one more level -/
def extS (S : Nat → Nat → Prop) (π : Nat → Nat) (A : List Nat) (T T' : Intern) (key key' : Nat → Key) :
    Nat → Nat → Prop :=
  fun i j => S i j ∨ ∃ a ∈ A, i = List.idxOf (key a) T ∧ j = List.idxOf (key' (π a)) T'

theorem extS_old {S : Nat → Nat → Prop} {π : Nat → Nat} {A : List Nat} {T T' : Intern} {key key' : Nat → Key}
    {i j : Nat} (h : S i j) : extS S π A T T' key key' i j := Or.inl h

theorem extS_new {S : Nat → Nat → Prop} {π : Nat → Nat} {A : List Nat} {T T' : Intern} {key key' : Nat → Key}
    {a : Nat} (ha : a ∈ A) : extS S π A T T' key key' (List.idxOf (key a) T) (List.idxOf (key' (π a)) T') :=
  Or.inr ⟨a, ha, rfl, rfl⟩

/-- interning corresponding keys (in whatever order) keeps the tables related -/
theorem intern_relabel (π : Nat → Nat) (hinj : ∀ a b, π a = π b → a = b) (S : Nat → Nat → Prop) (t t' : Intern)
    (h : TblRel π S t t') (A A' : List Nat) (hA : A'.Perm (A.map π)) (key key' : Nat → Key)
    (hk : ∀ a ∈ A, KRel π S (key a) (key' (π a)))
    (hasc : ∀ a ∈ A, StrictAsc (key a).2) (hasc' : ∀ a ∈ A, StrictAsc (key' (π a)).2) :
    TblRel π (extS S π A (internAll t (A.map key)) (internAll t' (A'.map key')) key key')
      (internAll t (A.map key)) (internAll t' (A'.map key')) := by
  have hpre := internAll_prefix t (A.map key)
  have hpre' := internAll_prefix t' (A'.map key')
  have hnd := internAll_nodup t (A.map key) h.nd
  have hnd' := internAll_nodup t' (A'.map key') h.nd'
  have hmemT : ∀ a ∈ A, key a ∈ internAll t (A.map key) := fun a ha => mem_internAll_map t key ha
  have hmemT' : ∀ a ∈ A, key' (π a) ∈ internAll t' (A'.map key') := fun a ha =>
    mem_internAll_map t' key' (hA.mem_iff.2 (List.mem_map.2 ⟨a, ha, rfl⟩))
  have hasc_T : ∀ k ∈ internAll t (A.map key), StrictAsc k.2 := forall_mem_internAll h.asc (by
    intro k hk
    obtain ⟨a, ha, rfl⟩ := List.mem_map.1 hk
    exact hasc a ha)
  have hasc_T' : ∀ k ∈ internAll t' (A'.map key'), StrictAsc k.2 := forall_mem_internAll h.asc' (by
    intro k hk
    obtain ⟨a', ha', rfl⟩ := List.mem_map.1 hk
    obtain ⟨a, ha, rfl⟩ := List.mem_map.1 (hA.mem_iff.1 ha')
    exact hasc' a ha)
  generalize internAll t (A.map key) = T at *
  generalize internAll t' (A'.map key') = T' at *
  have hrel : ∀ i j, extS S π A T T' key key' i j →
      ∃ k k', T[i]? = some k ∧ T'[j]? = some k' ∧ KRel π S k k' := by
    intro i j hs
    rcases hs with hs | ⟨a, ha, rfl, rfl⟩
    · obtain ⟨k, k', e1, e2, hkk⟩ := h.rel i j hs
      exact ⟨k, k', getElem?_of_prefix hpre e1, getElem?_of_prefix hpre' e2, hkk⟩
    · exact ⟨key a, key' (π a), List.getElem?_idxOf (hmemT a ha), List.getElem?_idxOf (hmemT' a ha), hk a ha⟩
  refine ⟨biUnique_of_keys hinj h.bi hnd hnd' hasc_T hasc_T' hrel, hnd, hnd', hasc_T, hasc_T', ?_⟩
  intro i j hs
  obtain ⟨k, k', e1, e2, hkk⟩ := hrel i j hs
  exact ⟨k, k', e1, e2, hkk.mono (fun _ _ => Or.inl)⟩

end E3fpVerif.Rl
