import Mathlib.Data.List.Basic
import E3fpVerif.Lemmas.RelabelAux
/-!
# Structurally equal shells have equal substructures

An invariant of a single run (`UInv`; no renumbering here): the substructure of a shell is a function
`subOf` of its interned structural id (`TblSub` for the table, `ShellSub` for a shell).  Consequence
(`union_eq_append`): with duplicate-substructure removal switched on, no accepted shell is structurally
equal to a shell already in `level_shells`, so the union `stepState` takes is an append.
-/
namespace E3fpVerif.Rl
open E3fpVerif

/-- `subOf` assigns to every id of the table the substructure its key determines -/
structure TblSub (t : Intern) (subOf : Nat → List Nat) : Prop where
  range : ∀ (i c : Nat) (ms : List Nat), t[i]? = some (c, ms) → ∀ j ∈ ms, j < t.length
  sub : ∀ (i c : Nat) (ms : List Nat), t[i]? = some (c, ms) → subOf i = uniq (c :: ms.flatMap subOf)

def ShellSub (t : Intern) (subOf : Nat → List Nat) (x : GShell) : Prop :=
  x.sid < t.length ∧ x.sub = subOf x.sid

/-- the extension of `subOf` to the ids of a longer table `T` -/
def extSub (t T : Intern) (subOf : Nat → List Nat) (i : Nat) : List Nat :=
  if i < t.length then subOf i else
    match T[i]? with
    | some k => uniq (k.1 :: k.2.flatMap subOf)
    | none => []

theorem uniq_cons_flatMap_uniq (a : Nat) (l : List Nat) (f : Nat → List Nat) :
    uniq (a :: (uniq l).flatMap f) = uniq (a :: l.flatMap f) :=
  uniq_ext _ _ (fun x => by simp only [List.mem_cons, List.mem_flatMap, mem_uniq])

/-- interning keys whose members are ids of the old table: `subOf` extends to the new ids, and the id of
every interned key gets the substructure that key determines -/
theorem tblSub_internAll (t : Intern) (subOf : Nat → List Nat) (h : TblSub t subOf) (ks : List Key)
    (hks : ∀ k ∈ ks, ∀ j ∈ k.2, j < t.length) :
    ∃ subOf₂, (∀ i, i < t.length → subOf₂ i = subOf i) ∧ TblSub (internAll t ks) subOf₂ ∧
      ∀ k ∈ ks, List.idxOf k (internAll t ks) < (internAll t ks).length ∧
        subOf₂ (List.idxOf k (internAll t ks)) = uniq (k.1 :: k.2.flatMap subOf) := by
  obtain ⟨r, hr, hrk⟩ := internAll_eq_append t ks
  have hold : ∀ i, i < t.length → extSub t (internAll t ks) subOf i = subOf i := by
    intro i hi; unfold extSub; rw [if_pos hi]
  have hmem : ∀ (i c : Nat) (ms : List Nat), (internAll t ks)[i]? = some (c, ms) → ∀ j ∈ ms, j < t.length := by
    intro i c ms hi j hj
    by_cases hlt : i < t.length
    · rewrite [hr, List.getElem?_append_left hlt] at hi
      exact h.range i c ms hi j hj
    · rewrite [hr, List.getElem?_append_right (Nat.le_of_not_lt hlt)] at hi
      exact hks _ (hrk _ (List.mem_of_getElem? hi)) j hj
  have hsub : ∀ (i c : Nat) (ms : List Nat), (internAll t ks)[i]? = some (c, ms) →
      extSub t (internAll t ks) subOf i = uniq (c :: ms.flatMap subOf) := by
    intro i c ms hi
    by_cases hlt : i < t.length
    · rewrite [hold i hlt]
      rewrite [hr, List.getElem?_append_left hlt] at hi
      exact h.sub i c ms hi
    · unfold extSub
      rw [if_neg hlt, hi]
  refine ⟨extSub t (internAll t ks) subOf, hold, ⟨?_, ?_⟩, ?_⟩
  · intro i c ms hi j hj
    exact Nat.lt_of_lt_of_le (hmem i c ms hi j hj) (internAll_prefix t ks).length_le
  · intro i c ms hi
    rewrite [flatMap_congr_mem ms _ subOf (fun j hj => hold j (hmem i c ms hi j hj))]
    exact hsub i c ms hi
  · intro k hk
    have hkT : k ∈ internAll t ks := (mem_internAll t ks k).2 (Or.inr hk)
    exact ⟨List.idxOf_lt_length_iff.2 hkT, hsub _ k.1 k.2 (List.getElem?_idxOf hkT)⟩

structure UInv (o : Opts) (atoms : List Nat) (subOf : Nat → List Nat) (s : FState) : Prop where
  tbl : TblSub s.tbl subOf
  genAtoms : (s.gen.getLastD []).map (·.atom) = atoms
  gen : ∀ x ∈ s.gen.getLastD [], ShellSub s.tbl subOf x
  ls : ∀ x ∈ s.levelShells.getLastD [], ShellSub s.tbl subOf x
  past : o.removeDup = true → ∀ x ∈ s.levelShells.getLastD [], x.sub ∈ s.past

theorem uniq_singleton (a : Nat) : uniq [a] = [a] := rfl

theorem uinv_init (o : Opts) (m : MolG) (atoms : List Nat) :
    ∃ subOf, UInv o atoms subOf (initState o m atoms) := by
  have h0 : TblSub [] (fun _ => []) := ⟨fun _ _ _ hi => (nomatch hi), fun _ _ _ hi => (nomatch hi)⟩
  obtain ⟨subOf₂, _, hT, hkey⟩ := tblSub_internAll [] (fun _ => []) h0 (atoms.map (fun a => ((a, []) : Key)))
    (by
      intro k hk j hj
      rcases List.mem_map.1 hk with ⟨a, _, rfl⟩
      cases hj)
  have hsh : ∀ x ∈ atoms.map (gen0ShellT o m (internAll [] (atoms.map (fun a => ((a, []) : Key))))),
      ShellSub (internAll [] (atoms.map (fun a => ((a, []) : Key)))) subOf₂ x := by
    intro x hx
    rcases List.mem_map.1 hx with ⟨a, ha, rfl⟩
    obtain ⟨h1, h2⟩ := hkey _ (List.mem_map.2 ⟨a, ha, rfl⟩)
    exact ⟨h1, h2.symm⟩
  have hgen := genLevel0_atoms o m atoms []
  rewrite [genLevel0_eq_map] at hgen
  refine ⟨subOf₂, ?_⟩
  rewrite [initState_eq_map]
  exact ⟨hT, hgen, hsh, hsh, fun _ x hx => List.mem_map.2 ⟨x, hx, rfl⟩⟩

/-- the table and the shells of the next level satisfy the invariant for an extension of `subOf` -/
theorem uinv_gen (o : Opts) (m : MolG) (g : Geo) (atoms : List Nat) (subOf : Nat → List Nat) (s : FState)
    (h : UInv o atoms subOf s) :
    ∃ subOf₂, TblSub (genLevel o m g atoms (s.gen.getLastD []) (s.currentLevel + 1) s.tbl).1 subOf₂ ∧
      (∀ x, ShellSub s.tbl subOf x →
        ShellSub (genLevel o m g atoms (s.gen.getLastD []) (s.currentLevel + 1) s.tbl).1 subOf₂ x) ∧
      ∀ x ∈ (genLevel o m g atoms (s.gen.getLastD []) (s.currentLevel + 1) s.tbl).2,
        ShellSub (genLevel o m g atoms (s.gen.getLastD []) (s.currentLevel + 1) s.tbl).1 subOf₂ x := by
  rewrite [genLevel_eq_map]
  generalize s.currentLevel + 1 = k
  have hprev : ∀ a b, b ∈ nbOf o m g atoms k a → ShellSub s.tbl subOf (shellOf (s.gen.getLastD []) b) := by
    intro a b hb
    have hb' : b ∈ atoms := (List.mem_filter.1 hb).1
    rewrite [← h.genAtoms] at hb'
    exact h.gen _ (shellOf_atom _ b hb').1
  obtain ⟨subOf₂, hold, hT, hkey⟩ := tblSub_internAll s.tbl subOf h.tbl
    (atoms.map (genKey o m g atoms (s.gen.getLastD []) k))
    (by
      intro key hkey j hj
      obtain ⟨a, _, rfl⟩ := List.mem_map.1 hkey
      obtain ⟨b, hb, rfl⟩ := mem_genKey.1 hj
      exact (hprev a b hb).1)
  refine ⟨subOf₂, hT, fun x hx => ⟨Nat.lt_of_lt_of_le hx.1 (internAll_prefix _ _).length_le, ?_⟩, ?_⟩
  · rewrite [hold _ hx.1]; exact hx.2
  · intro x hx
    rcases List.mem_map.1 hx with ⟨a, ha, rfl⟩
    obtain ⟨h1, h2⟩ := hkey _ (List.mem_map.2 ⟨a, ha, rfl⟩)
    refine ⟨h1, h2.symm ▸ ?_⟩
    simp only [genShellT, genKey]
    rewrite [uniq_cons_flatMap_uniq, List.flatMap_map]
    exact congrArg (fun l => uniq (a :: l)) (flatMap_congr_mem _ _ _ (fun b hb => (hprev a b hb).2))

/-- with duplicate removal the union is an append: an accepted shell has a substructure not seen
before, hence is structurally different from every shell already collected and from every other
accepted shell -/
theorem union_eq_append (o : Opts) (m : MolG) (g : Geo) (atoms : List Nat) (subOf : Nat → List Nat) (s : FState)
    (h : UInv o atoms subOf s) (hd : o.removeDup = true) :
    unionShells (s.levelShells.getLastD [])
        (dedupSpec s.past (sortByLt ltShell (genLevel o m g atoms (s.gen.getLastD []) (s.currentLevel + 1) s.tbl).2))
      = s.levelShells.getLastD [] ++
        dedupSpec s.past (sortByLt ltShell (genLevel o m g atoms (s.gen.getLastD []) (s.currentLevel + 1) s.tbl).2) := by
  rewrite [dedupSpec_eq]
  obtain ⟨subOf₂, _, hmono, hsh⟩ := uinv_gen o m g atoms subOf s h
  have hacc : ∀ z ∈ E3fpVerif.dedupSpec s.past
      (sortByLt ltShell (genLevel o m g atoms (s.gen.getLastD []) (s.currentLevel + 1) s.tbl).2),
      z.sub = subOf₂ z.sid := by
    intro z hz
    exact (hsh z ((mem_sortByLt _ _ _).1 ((dedupSpec_sublist _ _).subset hz))).2
  apply unionShells_eq_append
  · intro x hx z hz heq
    have : x.sub = z.sub := by rw [(hmono x (h.ls x hx)).2, hacc z hz, heq]
    exact dedupSpec_not_past _ _ z hz (this ▸ h.past hd x hx)
  · have hnd := dedupSpec_nodup s.past
      (sortByLt ltShell (genLevel o m g atoms (s.gen.getLastD []) (s.currentLevel + 1) s.tbl).2)
    rewrite [List.Nodup, List.pairwise_map] at hnd
    refine hnd.imp_of_mem ?_
    intro a b ha hb hab heq
    exact hab (by rw [hacc a ha, hacc b hb, heq])

theorem uinv_step (o : Opts) (m : MolG) (g : Geo) (atoms : List Nat) (subOf : Nat → List Nat) (s s' : FState)
    (h : UInv o atoms subOf s) (hs : stepState o m g atoms s = some s') :
    ∃ subOf', UInv o atoms subOf' s' := by
  obtain ⟨subOf₂, hT, hmono, hsh⟩ := uinv_gen o m g atoms subOf s h
  obtain ⟨_, rfl⟩ := stepState_some o m g atoms s s' hs
  refine ⟨subOf₂, ?_⟩
  constructor <;> simp only [stepNext, List.getLastD_concat]
  · exact hT
  · exact genLevel_atoms ..
  · exact hsh
  · intro x hx
    rcases unionShells_mem _ _ x hx with hx | hx
    · exact hmono x (h.ls x hx)
    · exact hsh x (stepAccepted_subset o m g atoms s x hx)
  · intro hd x hx
    rewrite [stepAccepted_past o m g atoms s hd]
    rcases unionShells_mem _ _ x hx with hx | hx
    · exact List.mem_append_left _ (h.past hd x hx)
    · exact List.mem_append_right _ (List.mem_map.2 ⟨x, hx, rfl⟩)

end E3fpVerif.Rl
