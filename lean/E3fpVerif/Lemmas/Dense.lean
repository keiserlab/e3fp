import E3fpVerif.Lemmas.Binary
/-!
# The dense Soergel loop (`_dense_soergel`, on one pair of dense rows) equals the definition
-/
namespace E3fpVerif.C06L

/-- one step of `_dense_soergel` -/
def denseStep (acc : Rat × Rat) (p : Rat × Rat) : Rat × Rat :=
  if p.1 - p.2 > 0 then (acc.1 + (p.1 - p.2), acc.2 + p.1) else (acc.1 - (p.1 - p.2), acc.2 + p.2)

theorem denseStep_eq (acc p : Rat × Rat) :
    denseStep acc p = (acc.1 + absQ (p.1 - p.2), acc.2 + maxQ p.1 p.2) :=
  step_matched acc.1 acc.2 p.1 p.2

theorem foldl_denseStep (l : List (Rat × Rat)) (acc : Rat × Rat) :
    l.foldl denseStep acc
      = (acc.1 + sumQ (l.map (fun p => absQ (p.1 - p.2))), acc.2 + sumQ (l.map (fun p => maxQ p.1 p.2))) := by
  induction l generalizing acc with
  | nil => exact Prod.ext (Rat.add_zero _).symm (Rat.add_zero _).symm
  | cons p ps ih =>
    rewrite [List.foldl_cons, ih, denseStep_eq]
    exact Prod.ext (Rat.add_assoc _ _ _) (Rat.add_assoc _ _ _)

theorem arrSoergelDense_eq (x y : List Rat) :
    arrSoergelDense x y =
      if sumQ ((x.zip y).map (fun p => maxQ p.1 p.2)) = 0 then 0
      else 1 - sumQ ((x.zip y).map (fun p => absQ (p.1 - p.2))) / sumQ ((x.zip y).map (fun p => maxQ p.1 p.2)) := by
  have h := foldl_denseStep (x.zip y) (0, 0)
  unfold denseStep at h
  unfold arrSoergelDense
  simp only [h, Rat.zero_add]

theorem sumQ_range_eq_union (b : Nat) (x y : Row) (g : Rat → Rat → Rat) (g0 : g 0 0 = 0)
    (hb : ∀ i ∈ unionCols x y, i < b) :
    sumQ ((List.range b).map (fun i => g (rowVal x i) (rowVal y i)))
      = sumQ ((unionCols x y).map (fun i => g (rowVal x i) (rowVal y i))) := by
  rewrite [sumQ_filter_of_zero (List.range b) (fun i => decide (i ∈ unionCols x y))]
  · rw [filter_mem_eq _ _ List.pairwise_lt_range (strictAsc_unionCols x y)
      (fun i hi => List.mem_range.2 (hb i hi))]
  · intro i _ hi
    have hi' := of_decide_eq_false hi
    rewrite [mem_unionCols, not_or] at hi'
    rw [rowVal_of_not_mem x i hi'.1, rowVal_of_not_mem y i hi'.2, g0]

/-- **dense Soergel = definition**: the dense rows of two sparse rows with all columns below `b` -/
theorem arrSoergelDense_eq_def (b : Nat) (x y : Row)
    (hx : ∀ p ∈ x, p.1 < b) (hy : ∀ p ∈ y, p.1 < b) :
    arrSoergelDense ((List.range b).map (rowVal x)) ((List.range b).map (rowVal y)) = soergelDef x y := by
  have hb : ∀ i ∈ unionCols x y, i < b := by
    intro i hi
    rcases (mem_unionCols x y i).1 hi with h | h
    · obtain ⟨p, hp, rfl⟩ := List.mem_map.1 h; exact hx p hp
    · obtain ⟨p, hp, rfl⟩ := List.mem_map.1 h; exact hy p hp
  rewrite [arrSoergelDense_eq, List.zip_map', List.map_map, List.map_map, soergelDef_eq]
  unfold colSumMax colSumAbs
  rewrite [← sumQ_range_eq_union b x y maxQ (maxQ_self 0) hb,
         ← sumQ_range_eq_union b x y (fun a c => absQ (a - c)) (absQ_self 0) hb]
  dsimp only [Function.comp_def]

end E3fpVerif.C06L
