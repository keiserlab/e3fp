import E3fpVerif.Lemmas.Digits
/-!
# `str` / `literal_eval` round trips of option values: integers; text that is no literal word and no number
-/
namespace E3fpVerif

theorem parseVal_natDigits (n : Nat) : parseVal (natDigits n) = .int n := by
  unfold parseVal
  -- a string literal is `String.ofList` of its characters: read `toList` off it instead of evaluating through the bytes
  rewrite [String.toList_ofList, String.toList_ofList, String.toList_ofList]
  -- `True`, `False`, `None` are not digit text
  rewrite [if_neg (natDigits_ne_of_digitsNat?_eq_none n _ (by decide +kernel)),
         if_neg (natDigits_ne_of_digitsNat?_eq_none n _ (by decide +kernel)),
         if_neg (natDigits_ne_of_digitsNat?_eq_none n _ (by decide +kernel))]
  split
  · rename_i r hr
    exact absurd hr (natDigits_ne_of_digitsNat?_eq_none n _ (digitsNat?_cons_nondigit '-' r (by decide)))
  · rw [digitsNat_natDigits]

theorem parseVal_neg_natDigits (n : Nat) : parseVal ('-' :: natDigits n) = .int (-(n : Int)) := by
  -- none of the literal words starts with a minus sign
  have hw : ∀ w : List Char, w.head? ≠ some '-' → '-' :: natDigits n ≠ w := fun w hw e => hw (e ▸ rfl)
  unfold parseVal
  rewrite [String.toList_ofList, String.toList_ofList, String.toList_ofList]
  rewrite [if_neg (hw _ (by decide +kernel)), if_neg (hw _ (by decide +kernel)), if_neg (hw _ (by decide +kernel))]
  simp only [digitsNat_natDigits]

theorem parseVal_showInt (i : Int) : parseVal (showInt i) = .int i := by
  unfold showInt
  by_cases h : i < 0
  · rw [if_pos h, parseVal_neg_natDigits, Int.ofNat_natAbs_of_nonpos (Int.le_of_lt h), Int.neg_neg]
  · rw [if_neg h, parseVal_natDigits, Int.natAbs_of_nonneg (Int.not_lt.mp h)]

set_option linter.deprecated false in
/-- a text that is not a literal word and not a number (also after a leading minus sign) comes back as itself:
as a float if it is float text, as a string otherwise -/
theorem parseVal_text (s : String)
    (h1 : s ≠ "True") (h2 : s ≠ "False") (h3 : s ≠ "None")
    (hd : digitsNat? s.toList = none)
    (hneg : ∀ r, s.toList = '-' :: r → digitsNat? r = none) :
    parseVal s.toList = if isFloatText s.toList then .float s else .str s := by
  unfold parseVal
  rewrite [if_neg (by rwa [String.toList_inj]), if_neg (by rwa [String.toList_inj]), if_neg (by rwa [String.toList_inj])]
  -- `parseVal` builds its strings with `String.mk`, deprecated for `String.ofList`: `hs` has to name it to rewrite
  have hs : String.mk s.toList = s := String.ofList_toList
  split
  · rename_i r hr
    rw [hneg r hr, hs]
  · rw [hd, hs]

end E3fpVerif
