import E3fpVerif.Model.SdfIO
import E3fpVerif.Gen.SdfIO
import E3fpVerif.Lemmas.ListAux
/-!
# C19 (SDF files): `read_write` computes a write followed by a read under every pair of limits; the statements
about conformers and energies are its instances

`Gen/SdfIO.lean` (constants extracted from `conformer/util.py`) is imported, but no statement mentions it: the four
decimals of `round4` are the model's own.
-/
namespace E3fpVerif.Props.C19
open E3fpVerif

/-- number of records a write limit leaves -/
def wcount (n : Nat) (wlim : Option Int) : Nat :=
  match wlim with
  | none => n
  | some l => if l = -1 then n else min n l.toNat

/-- number of records that are written and read back -/
def rcount (n : Nat) (wlim : Option Int) (rlim : Option Nat) : Nat :=
  match rlim with
  | none => wcount n wlim
  | some r => min r (wcount n wlim)

/-- a write followed by a read, for every combination of limits: the first `rcount` conformers in order,
with their rounded energies if the molecule had any -/
theorem read_write (n : Nat) (es : Option (List Rat)) (wlim : Option Int) (rlim : Option Nat) :
    readRecords (writeRecords n es wlim) rlim =
      (List.range (rcount n wlim rlim), match es with
        | none => []
        | some es => (es.take (rcount n wlim rlim)).map round4) := by
  have ht : readRecords (writeRecords n es wlim) rlim = readRecords ((List.range (rcount n wlim rlim)).map
      (fun i => (i, es.bind (fun es => (es[i]?).map round4)))) none := by
    cases rlim with
    | none => rfl
    | some r =>
      show readRecords (((List.range (wcount n wlim)).map _).take r) none = _
      rewrite [← List.map_take, List.take_range]
      rfl
  rewrite [ht]
  show (List.map _ (List.map _ _), List.filterMap _ (List.map _ _)) = _
  rewrite [List.map_map, List.filterMap_map]
  congr 1
  · exact List.map_id' _
  · cases es with
    | none => exact List.filterMap_eq_nil_iff.mpr fun _ _ => rfl
    | some es =>
      simp only [Function.comp_def, Option.bind_some, Option.map_eq_bind]
      rewrite [filterMap_range_getElem?, ← List.filterMap_eq_map]
      rfl

/-- reading back what was written gives the first `min (min n w) r` conformers, in order -/
theorem confs_rt (n : Nat) (es : Option (List Rat)) (w r : Nat) :
    (readRecords (writeRecords n es (some (w : Int))) (some r)).1 = List.range (min (min n w) r) := by
  rewrite [read_write]
  have hw : ¬ ((w : Int) = -1) := Int.noConfusion
  simp only [rcount, wcount, hw, ↓reduceIte, Int.toNat_natCast, Nat.min_comm]

/-- conformers through a write / read without limits: all, in order -/
theorem confs_rt_nolimit (n : Nat) (es : Option (List Rat)) :
    (readRecords (writeRecords n es none) none).1 = List.range n := by
  rewrite [read_write]; rfl

/-- the energies read back are the rounded energies of the conformers that were written and read,
in conformer order, for every combination of limits (the count written out is `rcount n wlim rlim`) -/
theorem energies_rt_limits (n : Nat) (es : List Rat) (wlim : Option Int) (rlim : Option Nat) :
    (readRecords (writeRecords n (some es) wlim) rlim).2 =
      (es.take (match rlim with | none => wcount n wlim | some r => min r (wcount n wlim))).map round4 := by
  rewrite [read_write]
  cases rlim <;> rfl

/-- without limits: the first `n` energies, rounded -/
theorem energies_rt (n : Nat) (es : List Rat) :
    (readRecords (writeRecords n (some es) none) none).2 = (es.take n).map round4 :=
  energies_rt_limits n es none none

/-- one energy per conformer: exactly the stored (rounded) energies come back -/
theorem energies_rt_full (es : List Rat) :
    (readRecords (writeRecords es.length (some es) none) none).2 = storeEnergies es := by
  rewrite [energies_rt, List.take_length]
  rfl

/-- ... and as many energies as conformers -/
theorem energies_rt_aligned (n : Nat) (es : List Rat) (h : n ≤ es.length) :
    (readRecords (writeRecords n (some es) none) none).2.length =
      (readRecords (writeRecords n (some es) none) none).1.length := by
  rewrite [read_write, List.length_map, List.length_take, List.length_range]
  exact Nat.min_eq_left h

/-- without energies on the molecule none are read -/
theorem energies_none (n : Nat) (wlim : Option Int) (rlim : Option Nat) :
    (readRecords (writeRecords n none wlim) rlim).2 = [] := by
  rw [read_write]

/-- a write limit of `-1` is no limit -/
theorem write_limit_neg_one (n : Nat) (es : Option (List Rat)) :
    writeRecords n es (some (-1)) = writeRecords n es none := rfl

example : (readRecords (writeRecords 2 (some [1/3, 2, 5]) none) none).2 = [3333/10000, 2] := by
  rewrite [energies_rt]; decide +kernel

theorem round4_of_int (k : Int) : round4 ((k : Rat) / 10000) = (k : Rat) / 10000 := by
  unfold round4
  simp only [Rat.div_mul_cancel (show (10000 : Rat) ≠ 0 by decide), Rat.floor_intCast, Rat.sub_self]
  rw [if_pos (by decide +kernel)]

theorem round4_is_multiple (q : Rat) : ∃ k : Int, round4 q = (k : Rat) / 10000 := by
  unfold round4
  exact ⟨_, rfl⟩

/-- writing an energy that was read back writes the same text: rounding is idempotent -/
theorem round4_idem (q : Rat) : round4 (round4 q) = round4 q := by
  obtain ⟨k, hk⟩ := round4_is_multiple q
  rw [hk, round4_of_int]

/-- the rounded energy is within half a unit in the fourth decimal of the energy -/
theorem round4_close (q : Rat) : q - round4 q ≤ 1 / 20000 ∧ round4 q - q ≤ 1 / 20000 := by
  have h1 := Rat.floor_le (q * 10000)
  have h2 := Rat.lt_floor_add_one (q * 10000)
  rewrite [Rat.intCast_add] at h2
  unfold round4
  simp only
  generalize (q * 10000).floor = f at *
  -- rounding down happens only at a remainder of at most 1/2, rounding up only at one of at least 1/2
  have down : q * 10000 - f ≤ 1 / 2 →
      q - (f : Rat) / 10000 ≤ 1 / 20000 ∧ (f : Rat) / 10000 - q ≤ 1 / 20000 := by grind
  have up : ¬ q * 10000 - f < 1 / 2 →
      q - ((f + 1 : Int) : Rat) / 10000 ≤ 1 / 20000 ∧ ((f + 1 : Int) : Rat) / 10000 - q ≤ 1 / 20000 := by
    rewrite [Rat.intCast_add]
    grind
  split
  · exact down (Rat.le_of_lt ‹_›)
  · rename_i hlo
    split
    · exact up hlo
    · rename_i hhi
      split
      · exact down (Rat.not_lt.mp hhi)
      · exact up hlo

example : round4 (12345 / 100000) = 617 / 5000 ∧ round4 (12355 / 100000) = 309 / 2500 := by decide +kernel

/-- stored energies are already rounded: storing twice changes nothing -/
theorem storeEnergies_idem (es : List Rat) : storeEnergies (storeEnergies es) = storeEnergies es := by
  unfold storeEnergies
  rewrite [List.map_map]
  apply List.map_congr_left
  intro a _
  exact round4_idem a

end E3fpVerif.Props.C19
