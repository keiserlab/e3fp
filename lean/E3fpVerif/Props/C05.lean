import E3fpVerif.Model.Db
import E3fpVerif.Lemmas.DbIndex
import E3fpVerif.Lemmas.DbCols
import E3fpVerif.Lemmas.ExceptGuard
/-!
# C05 — a database is a faithful, order-preserving container

`Db.Inv` is the representation invariant.  `Db.new` and an accepted `Db.fromArray` with one name per row
establish it, `Db.add`, `Db.setProp` and `Db.updateProps` preserve it, `Db.subset` builds a database that
satisfies it and `Db.asType`, `Db.fold` do so from a source that does.  An accepted addition leaves the old rows
as they were (`add_preserves_old_rows`); under the invariant `db[name]` returns exactly the rows carrying the
name, in insertion order (`getName_rows`); `db[i]` is Python's indexing (`getIndex_eq`).

`Db.getIndex`, `Db.getName`, `Db.eq` return no database, and `Db.subset`, `Db.asType`, `Db.fold`
return a *new* one while taking the source by value: in the model there is no "state after" of the
source, so that these operations do not change it needs no theorem.
-/
namespace E3fpVerif.Props.C05
open E3fpVerif

/-- Representation invariant: names, property columns and rows have one common length, the
separately maintained name index is the canonical one, and the property keys are duplicate free
(otherwise `colSet` extends only the first of two equally named columns).  A database without rows
may carry property columns (of length 0): `set_prop` / `update_props` accept them, and an addition
takes its expected columns from them (`add_respects_declared_columns`). -/
def _root_.E3fpVerif.Db.Inv (db : Db) : Prop :=
  match db.array with
  | some a =>
    db.fpNames.length = a.length ∧
    (∀ c ∈ db.props, c.2.length = a.length) ∧
    db.namesMap = updateNamesMap [] db.fpNames 0 ∧
    (db.props.map Prod.fst).Nodup
  | none => db.fpNames = [] ∧ db.namesMap = [] ∧ (∀ c ∈ db.props, c.2.length = 0) ∧ (db.props.map Prod.fst).Nodup

theorem inv_some {db : Db} {a : List Row} (h : db.array = some a) :
    db.Inv ↔ db.fpNames.length = a.length ∧ (∀ c ∈ db.props, c.2.length = a.length) ∧
      db.namesMap = updateNamesMap [] db.fpNames 0 ∧ (db.props.map Prod.fst).Nodup := by
  unfold Db.Inv; rw [h]

theorem inv_none {db : Db} (h : db.array = none) :
    db.Inv ↔ db.fpNames = [] ∧ db.namesMap = [] ∧ (∀ c ∈ db.props, c.2.length = 0) ∧
      (db.props.map Prod.fst).Nodup := by
  unfold Db.Inv; rw [h]

theorem fpNum_some {db : Db} {a : List Row} (h : db.array = some a) : db.fpNum = a.length := by
  unfold Db.fpNum; rw [h]

theorem fpNum_none {db : Db} (h : db.array = none) : db.fpNum = 0 := by
  unfold Db.fpNum; rw [h]

/-- the invariant in one uniform statement (`fpNum` is 0 for a database without matrix, and the
canonical index of no names is empty) -/
theorem inv_iff (db : Db) :
    db.Inv ↔ db.fpNames.length = db.fpNum ∧ (∀ c ∈ db.props, c.2.length = db.fpNum) ∧
      db.namesMap = updateNamesMap [] db.fpNames 0 ∧ (db.props.map Prod.fst).Nodup := by
  unfold Db.Inv
  cases ha : db.array with
  | some a => rw [fpNum_some ha]
  | none =>
    rewrite [fpNum_none ha, List.length_eq_zero_iff]
    constructor
    · rintro ⟨h1, h2, h3, h4⟩; exact ⟨h1, h3, by rewrite [h1, h2]; rfl, h4⟩
    · rintro ⟨h1, h3, h2, h4⟩; exact ⟨h1, by rewrite [h2, h1]; rfl, h3, h4⟩

theorem _root_.E3fpVerif.Db.Inv.names_length {db : Db} (h : db.Inv) : db.fpNames.length = db.fpNum :=
  ((inv_iff db).1 h).1

theorem _root_.E3fpVerif.Db.Inv.col_length {db : Db} (h : db.Inv) : ∀ c ∈ db.props, c.2.length = db.fpNum :=
  ((inv_iff db).1 h).2.1

theorem _root_.E3fpVerif.Db.Inv.canonical {db : Db} (h : db.Inv) : db.namesMap = updateNamesMap [] db.fpNames 0 :=
  ((inv_iff db).1 h).2.2.1

theorem _root_.E3fpVerif.Db.Inv.keys_nodup {db : Db} (h : db.Inv) : (db.props.map Prod.fst).Nodup :=
  ((inv_iff db).1 h).2.2.2

/-- the form `from_array` checks: every column is as long as the name list -/
theorem _root_.E3fpVerif.Db.Inv.cols_names {db : Db} (h : db.Inv) : ∀ c ∈ db.props, c.2.length = db.fpNames.length :=
  fun c hc => by rw [h.col_length c hc, h.names_length]

theorem inv_new (k : Kind) (l : Int) (n : Option String) : (Db.new k l n).Inv :=
  ⟨rfl, rfl, List.forall_mem_nil _, List.nodup_nil⟩

/-- appending a batch at an offset to the canonical index equals rebuilding the index of all names
(`updateNamesMap_append_gen` in `Lemmas/DbIndex.lean` allows any start index and offset) -/
theorem updateNamesMap_append (xs ys : List (Option String)) :
    updateNamesMap (updateNamesMap [] xs 0) ys xs.length = updateNamesMap [] (xs ++ ys) 0 := by
  simpa using updateNamesMap_append_gen [] xs ys 0

/-- **`add_fingerprints` characterised**: it accepts exactly when the batch is non-empty and passes the
three checks, and the state is then `addOk` -/
theorem add_eq_ok (db : Db) (fps : List FpIn) (d : Db) :
    db.add fps = (d, none) ↔
      fps ≠ [] ∧ db.badLevel fps = false ∧ db.badBits fps = false ∧ db.badProps fps = false ∧ db.addOk fps = d := by
  simp only [Db.add, ite_refuse_eq_ok, Bool.not_eq_true, List.isEmpty_eq_false_iff, Prod.mk.injEq, and_true]

theorem add_ok_iff (db : Db) (fps : List FpIn) :
    (db.add fps).2 = none ↔
      fps ≠ [] ∧ db.badLevel fps = false ∧ db.badBits fps = false ∧ db.badProps fps = false := by
  constructor
  · intro h
    obtain ⟨h0, h1, h2, h3, _⟩ := (add_eq_ok db fps _).1 (Prod.ext rfl h)
    exact ⟨h0, h1, h2, h3⟩
  · rintro ⟨h0, h1, h2, h3⟩
    rw [(add_eq_ok db fps _).2 ⟨h0, h1, h2, h3, rfl⟩]

theorem add_ok_eq (db : Db) (fps : List FpIn) (h : (db.add fps).2 = none) :
    (db.add fps).1 = db.addOk fps := by
  obtain ⟨_, _, _, _, e⟩ := (add_eq_ok db fps _).1 (Prod.ext rfl h)
  exact e.symm

/-- `add_fingerprints` is all or nothing: a refusal hands back the database it was given -/
theorem add_refused (db : Db) (fps : List FpIn) (h : (db.add fps).2.isSome) : (db.add fps).1 = db := by
  unfold Db.add at h ⊢
  exact ite_refuse_atomic (ite_refuse_atomic (ite_refuse_atomic (ite_refuse_atomic fun h => by cases h))) h

theorem addOk_fpNum (db : Db) (fps : List FpIn) : (db.addOk fps).fpNum = db.fpNum + fps.length := by
  rewrite [fpNum_eq, fpNum_eq db]
  show (db.array.getD [] ++ fps.map (fun f => fpRow db.fpType f.fp)).length = _
  rw [List.length_append, List.length_map]

/-- the property columns after an accepted addition, in both regimes: a database that has rows or
declared columns extends each of its columns, in order; a database with neither takes the columns of
the batch's first fingerprint -/
theorem addOk_props (db : Db) (fps : List FpIn) (h : db.Inv) :
    (db.addOk fps).props =
      if db.fpNum > 0 ∨ db.props ≠ [] then
        db.props.map (fun c => (c.1, c.2 ++ fps.map (fun f => (propLookup f.props c.1).getD (.int 0))))
      else
        ((fps.head?.map (fun f => f.props.map Prod.fst)).getD []).foldl
          (fun acc k => colSet acc k (fps.map (fun f => (propLookup f.props k).getD (.int 0)))) [] := by
  unfold Db.addOk Db.expectedProps
  by_cases hc : db.fpNum > 0 ∨ db.props ≠ []
  · rewrite [if_pos hc, if_pos hc]
    show List.foldl _ db.props _ = _
    rewrite [foldl_colSet_self _ db.props h.keys_nodup]
    refine List.map_congr_left fun c hc' => ?_
    rewrite [colLookup_eq_lookup, (lookup_eq_some_iff_mem h.keys_nodup).2 hc']
    rfl
  · rewrite [if_neg hc, if_neg hc, Classical.not_not.1 fun hne => hc (Or.inr hne)]
    rfl

/-- the state after an accepted addition satisfies the invariant (no hypothesis on the batch is
needed: the new cells are padded with a default, so the columns grow by `fps.length` anyway) -/
theorem inv_addOk (db : Db) (fps : List FpIn) (h : db.Inv) : (db.addOk fps).Inv := by
  have hcols : ((db.addOk fps).props.map Prod.fst).Nodup ∧
      ∀ c ∈ (db.addOk fps).props, c.2.length = db.fpNum + fps.length := by
    rewrite [addOk_props db fps h]
    by_cases hc : db.fpNum > 0 ∨ db.props ≠ []
    · rewrite [if_pos hc]
      refine ⟨by rewrite [List.map_map]; exact h.keys_nodup, ?_⟩
      intro c hc'
      obtain ⟨c0, hc0, rfl⟩ := List.mem_map.1 hc'
      rw [List.length_append, List.length_map, h.col_length c0 hc0]
    · have h0 : db.fpNum = 0 := Nat.eq_zero_of_not_pos (fun hh => hc (Or.inl hh))
      rewrite [if_neg hc, h0, Nat.zero_add]
      have := foldl_colSet_pairs_forall (fun v => v.length = fps.length)
        (((fps.head?.map (fun f => f.props.map Prod.fst)).getD []).map
          (fun k => (k, fps.map (fun f => (propLookup f.props k).getD (.int 0)))))
        (List.forall_mem_map.2 fun _ _ => List.length_map _) [] List.nodup_nil (List.forall_mem_nil _)
      rwa [List.foldl_map] at this
  rewrite [inv_iff, addOk_fpNum]
  refine ⟨?_, hcols.2, ?_, hcols.1⟩
  · show (db.fpNames ++ fps.map (·.name)).length = _
    rw [List.length_append, List.length_map, h.names_length]
  show updateNamesMap db.namesMap (fps.map (·.name)) db.fpNum = _
  rewrite [h.canonical, ← h.names_length]
  exact updateNamesMap_append db.fpNames _

/-- **an accepted addition preserves the invariant** -/
theorem inv_add (db : Db) (fps : List FpIn) (h : db.Inv) (hok : (db.add fps).2 = none) :
    (db.add fps).1.Inv := by
  rewrite [add_ok_eq db fps hok]; exact inv_addOk db fps h

theorem inv_add_always (db : Db) (fps : List FpIn) (h : db.Inv) : (db.add fps).1.Inv := by
  cases e : (db.add fps).2 with
  | none => exact inv_add db fps h e
  | some _ => rewrite [add_refused db fps (by rewrite [e]; rfl)]; exact h

/-- rows and names are appended in order -/
theorem abs_add_rows (db : Db) (fps : List FpIn) (hok : (db.add fps).2 = none) :
    (db.add fps).1.array = some (db.array.getD [] ++ fps.map (fun f => fpRow db.fpType f.fp)) ∧
    (db.add fps).1.fpNames = db.fpNames ++ fps.map (·.name) ∧
    (db.add fps).1.fpNum = db.fpNum + fps.length ∧
    (db.add fps).1.fpType = db.fpType ∧ (db.add fps).1.level = db.level ∧ (db.add fps).1.name = db.name := by
  rewrite [add_ok_eq db fps hok]
  exact ⟨rfl, rfl, addOk_fpNum db fps, rfl, rfl, rfl⟩

/-- an old row keeps its position and content, a new row `j` sits at `db.fpNum + j` -/
theorem abs_add_row_at (db : Db) (fps : List FpIn) (hok : (db.add fps).2 = none) (a : List Row)
    (ha : db.array = some a) :
    (∀ i, i < a.length → ((db.add fps).1.array.getD [])[i]? = a[i]?) ∧
    (∀ j, j < fps.length →
      ((db.add fps).1.array.getD [])[a.length + j]? = (fps[j]?).map (fun f => fpRow db.fpType f.fp)) := by
  rewrite [(abs_add_rows db fps hok).1, ha]
  constructor
  · intro i hi; exact List.getElem?_append_left hi
  · intro j _
    show (a ++ _)[a.length + j]? = _
    rw [List.getElem?_append_right (Nat.le_add_right _ _), Nat.add_sub_cancel_left, List.getElem?_map]

/-- on a database without rows on which columns were declared (`set_prop` / `update_props` with empty
arrays), the declared columns are the expected ones and each receives the batch's values -/
theorem abs_add_props_declared (db : Db) (fps : List FpIn) (h : db.Inv) (hok : (db.add fps).2 = none)
    (hdecl : db.props ≠ []) :
    (db.add fps).1.props =
      db.props.map (fun c => (c.1, c.2 ++ fps.map (fun f => (propLookup f.props c.1).getD (.int 0)))) := by
  rw [add_ok_eq db fps hok, addOk_props db fps h, if_pos (Or.inr hdecl)]

/-- the property cells of an old row are not touched by an accepted addition -/
theorem addOk_old_cells (db : Db) (fps : List FpIn) (h : db.Inv) (i : Nat) (hi : i < db.fpNum) :
    (db.addOk fps).props.filterMap (fun c => (c.2[i]?).map (fun v => (c.1, v))) =
      db.props.filterMap (fun c => (c.2[i]?).map (fun v => (c.1, v))) := by
  rewrite [addOk_props db fps h, if_pos (Or.inl (Nat.zero_lt_of_lt hi)), List.filterMap_map]
  refine filterMap_congr_mem fun c hc => ?_
  simp only [Function.comp_def]
  rw [List.getElem?_append_left (by rewrite [h.col_length c hc]; exact hi)]

/-- **faithfulness towards the rows already stored**: an accepted addition changes nothing that
`db[i]` returns for an old row `i` — content, name and property values -/
theorem add_preserves_old_rows (db : Db) (fps : List FpIn) (h : db.Inv) (hok : (db.add fps).2 = none)
    (i : Nat) (hi : i < db.fpNum) : (db.add fps).1.fprintAt i = db.fprintAt i := by
  have hpos : db.fpNum > 0 := Nat.zero_lt_of_lt hi
  cases ha : db.array with
  | none => rewrite [fpNum_none ha] at hi; cases hi
  | some a =>
    have hia : i < a.length := fpNum_some ha ▸ hi
    have hin : i < db.fpNames.length := h.names_length.symm ▸ hi
    rewrite [add_ok_eq db fps hok]
    unfold Db.fprintAt
    rewrite [addOk_old_cells db fps h i hi]
    simp only [Db.addOk, ha, Db.expectedBits, hpos, if_true, Option.getD_some, List.getElem?_append_left hia,
      List.getElem?_append_left hin]

/-- the name of the new row `j` is the name of the `j`-th fingerprint of the batch -/
theorem abs_add_name_at (db : Db) (fps : List FpIn) (h : db.Inv) (hok : (db.add fps).2 = none) (j : Nat) :
    (db.add fps).1.fpNames[db.fpNum + j]? = (fps[j]?).map (·.name) := by
  rw [(abs_add_rows db fps hok).2.1, ← h.names_length, List.getElem?_append_right (Nat.le_add_right _ _),
    Nat.add_sub_cancel_left, List.getElem?_map]

/-- lookup in the canonical index: a hit is the ascending list of the positions carrying the name,
a miss happens exactly for an absent name (`mapLookup_canonical`, `mem_positions`, `positions_strictAsc` of
`Lemmas/DbIndex.lean` in one statement) -/
theorem mapLookup_updateNamesMap (names : List (Option String)) (nm : Option String) :
    (∀ l, mapLookup (updateNamesMap [] names 0) nm = some l → l = positions names nm) ∧
    (mapLookup (updateNamesMap [] names 0) nm = none ↔ nm ∉ names) ∧
    (∀ i, i ∈ positions names nm ↔ names[i]? = some nm) ∧
    StrictAsc (positions names nm) := by
  refine ⟨fun l hl => ?_, ?_, mem_positions names nm, positions_strictAsc names nm⟩
  · rw [← mapLookup_canonical_getD, hl, Option.getD_some]
  · rewrite [mapLookup_canonical, ite_eq_right_iff]
    exact ⟨fun h hm => (nomatch h hm), fun h hm => absurd hm h⟩

theorem mapLookup_updateNamesMap_mem (names : List (Option String)) (nm : Option String) (h : nm ∈ names) :
    mapLookup (updateNamesMap [] names 0) nm = some (positions names nm) := by
  rw [mapLookup_canonical, if_pos h]

/-- a name the index does not hold gives `[]`, not an error -/
theorem getName_absent (db : Db) (nm : String) (h : mapLookup db.namesMap (some nm) = none) :
    db.getName nm = .ok [] := by
  simp [Db.getName, h, List.mapM_nil, pure, Except.pure]

/-- **`db[name]` returns the fingerprints of exactly the rows carrying the name, in row order** -/
theorem getName_rows (db : Db) (nm : String) (h : db.Inv) :
    db.getName nm = (positions db.fpNames (some nm)).mapM db.fprintAt := by
  unfold Db.getName
  rw [h.canonical, mapLookup_canonical_getD]

/-- **`db[i]` characterised**: in range, from `-n` to `n - 1`, it is the row `i mod n`; out of range
it is an `IndexError` -/
theorem getIndex_eq (db : Db) (i : Int) :
    db.getIndex i = if -(db.fpNum : Int) ≤ i ∧ i < db.fpNum then db.fprintAt (i % (db.fpNum : Int)).toNat
      else .error .index := by
  unfold Db.getIndex
  generalize (db.fpNum : Int) = n
  by_cases h : i ≥ n ∨ i < -n
  · rw [if_pos h, if_neg fun h' => h.elim (Int.not_le.2 h'.2) (Int.not_lt.2 h'.1)]
  · obtain ⟨h1, h2⟩ := not_or.1 h
    rewrite [if_neg h, if_pos (And.intro (Int.not_lt.1 h2) (Int.not_le.1 h1))]
    by_cases hi : i < 0
    · rw [if_pos hi, ← Int.add_emod_right, Int.emod_eq_of_lt (Int.add_nonneg_iff_neg_le.2 (Int.not_lt.1 h2))
        (by simpa using Int.add_lt_add_right hi n)]
    · rw [if_neg hi, Int.emod_eq_of_lt (Int.not_lt.1 hi) (Int.not_le.1 h1)]

/-- Python's negative indexing: `db[i - n] == db[i]` for `0 ≤ i < n` -/
theorem getIndex_neg (db : Db) (i : Int) (h0 : 0 ≤ i) (h1 : i < db.fpNum) :
    db.getIndex (i - db.fpNum) = db.getIndex i := by
  have hn : (0 : Int) ≤ db.fpNum := Int.natCast_nonneg _
  rw [getIndex_eq, getIndex_eq, if_pos ⟨Int.le_add_of_nonneg_left h0, Int.lt_of_le_of_lt (Int.sub_le_self i hn) h1⟩,
    if_pos ⟨Int.le_trans (Int.neg_nonpos_of_nonneg hn) h0, h1⟩, Int.sub_emod_right]

theorem getIndex_in_range (db : Db) (i : Int) (h0 : -(db.fpNum : Int) ≤ i) (h1 : i < db.fpNum) :
    db.getIndex i = db.fprintAt (i % (db.fpNum : Int)).toNat := by
  rw [getIndex_eq, if_pos ⟨h0, h1⟩]

theorem getIndex_out_of_range (db : Db) (i : Int) (h : i ≥ db.fpNum ∨ i < -(db.fpNum : Int)) :
    db.getIndex i = .error .index := by
  rw [getIndex_eq, if_neg fun h' => h.elim (Int.not_le.2 h'.2) (Int.not_lt.2 h'.1)]

/-- `from_array` establishes the canonical index by construction; with as many names as rows the
result satisfies the invariant -/
theorem fromArray_inv (rows : List Row) (bits : Nat) (names : List (Option String)) (k : Kind) (level : Int)
    (name : Option String) (props : Cols) (hl : names.length = rows.length)
    (h : (Db.fromArray rows bits names k level name props).2 = none) :
    (Db.fromArray rows bits names k level name props).1.Inv := by
  have hc := (fromArray_ok_iff rows bits names k level name props).1 h
  rewrite [fromArray_ok rows bits names k level name props hc]
  have hp := foldl_colSet_pairs_forall (fun v => v.length = names.length) props hc [] List.nodup_nil (List.forall_mem_nil _)
  rewrite [inv_some rfl, List.length_map, ← hl]
  exact ⟨rfl, hp.2, rfl, hp.1⟩

/-- `fromArray_inv` from the equation its callers have -/
theorem fromArray_inv' {rows : List Row} {bits : Nat} {names : List (Option String)} {k : Kind} {level : Int}
    {name : Option String} {props : Cols} {d : Db}
    (h : Db.fromArray rows bits names k level name props = (d, none))
    (hl : names.length = rows.length) : d.Inv := by
  have := fromArray_inv rows bits names k level name props hl (by rw [h])
  rewrite [h] at this; exact this

/-- `get_subset` builds a database satisfying the invariant (whatever the source) -/
theorem subset_inv (db : Db) (names : List String) (newName : Option String) (d : Db)
    (h : db.subset names newName = .ok d) : d.Inv := by
  unfold Db.subset at h
  simp only [ite_error_eq_ok, pairResult_eq_ok] at h
  exact fromArray_inv' h.2.2 (by rw [List.length_map, List.length_map])

/-- `as_type` (and `copy`, and `load(savez(db))`, which run the same construction) succeeds exactly
when there is a matrix and every column is as long as the name list; it then re-casts the stored
values, rebuilds the index and re-inserts the columns -/
theorem asType_eq_ok (db : Db) (k : Kind) (d : Db) :
    db.asType k = .ok d ↔
      ∃ a, db.array = some a ∧ (∀ c ∈ db.props, c.2.length = db.fpNames.length) ∧
        d = { db with fpType := k, array := some (a.map (fun r => r.map (fun p => (p.1, castVal k p.2)))),
                      namesMap := updateNamesMap [] db.fpNames 0,
                      props := db.props.foldl (fun acc c => colSet acc c.1 c.2) [] } := by
  unfold Db.asType
  cases db.array with
  | none => simp only [reduceCtorEq, false_and, exists_false]
  | some a => simp only [pairResult_eq_ok, fromArray_eq_ok, Option.some.injEq, exists_eq_left']

theorem asType_inv (db : Db) (k : Kind) (d : Db) (hi : db.Inv) (h : db.asType k = .ok d) : d.Inv := by
  obtain ⟨a, ha, hc, rfl⟩ := (asType_eq_ok db k d).1 h
  exact fromArray_inv' (fromArray_ok a db.bits db.fpNames k db.level db.name db.props hc) ((inv_some ha).1 hi).1

theorem fold_inv (db : Db) (bits : Nat) (k : Option Kind) (newName : Option String) (d : Db)
    (hi : db.Inv) (h : db.fold bits k newName = .ok d) : d.Inv := by
  unfold Db.fold at h
  cases ha : db.array with
  | none => rewrite [ha] at h; cases h
  | some a =>
    rewrite [ha] at h
    simp only [ite_error_eq_ok, pairResult_eq_ok] at h
    exact fromArray_inv' h.2.2 (by rewrite [List.length_map]; exact ((inv_some ha).1 hi).1)

theorem setProp_eq_updateProps (db : Db) (k : String) (v : List PVal) : db.setProp k v = db.updateProps [(k, v)] := by
  unfold Db.setProp Db.updateProps
  refine ite_congr ?_ (fun _ => rfl) (fun _ => rfl)
  simp only [Db.badCols, List.any_cons, List.any_nil, Bool.or_false, decide_eq_true_eq]

theorem updateProps_inv (db : Db) (ps : Cols) (h : db.Inv) : (db.updateProps ps).1.Inv := by
  unfold Db.updateProps
  by_cases hb : db.badCols ps = true
  · rewrite [if_pos hb]; exact h
  · rewrite [if_neg hb, foldl_setCols, inv_iff]
    have hall : ∀ c ∈ ps, c.2.length = db.fpNum := fun c hc =>
      h.names_length ▸ Decidable.not_not.1 (fun hne => hb (List.any_eq_true.2 ⟨c, hc, decide_eq_true hne⟩))
    have hp := foldl_colSet_pairs_forall (fun v => v.length = db.fpNum) ps hall db.props h.keys_nodup h.col_length
    exact ⟨h.names_length, hp.2, h.canonical, hp.1⟩

theorem setProp_inv (db : Db) (k : String) (v : List PVal) (h : db.Inv) : (db.setProp k v).1.Inv := by
  rewrite [setProp_eq_updateProps]; exact updateProps_inv db _ h

section Examples

private def f1 : Fp := ⟨.bit, 8, 0, [1, 2], []⟩
private def f2 : Fp := ⟨.bit, 8, 0, [3], []⟩
private def db0 : Db := Db.new .bit 0 none
private def db1 : Db := db0.addOk [⟨f1, some "a", [("w", .int 1)]⟩, ⟨f2, some "b", [("w", .int 2)]⟩]
private def batch : List FpIn := [⟨f2, some "a", [("w", .int 3)]⟩]

/-- `inv_add`, `abs_add_rows`, `addOk_props`: the hypotheses are satisfiable, and the accepted
addition of a second fingerprint named "a" appends its row -/
example : db1.Inv ∧ (db1.add batch).2 = none ∧ db1.fpNum > 0 ∧ (db1.add batch).1.Inv ∧
    (db1.add batch).1.fpNames = [some "a", some "b", some "a"] ∧
    (db1.add batch).1.props = [("w", [.int 1, .int 2, .int 3])] := by
  have h1 : db1.Inv := inv_addOk db0 _ (inv_new _ _ _)
  have h2 : (db1.add batch).2 = none := by decide +kernel
  exact ⟨h1, h2, by decide +kernel, inv_add db1 batch h1 h2, by decide +kernel⟩

/-- `mapLookup_updateNamesMap`, `getName_rows`: a repeated name yields both rows, in order -/
example : mapLookup (db1.add batch).1.namesMap (some "a") = some [0, 2] ∧
    positions (db1.add batch).1.fpNames (some "a") = [0, 2] ∧
    mapLookup (db1.add batch).1.namesMap (some "z") = none := by decide +kernel

private def errOf {α : Type} : Except Err α → Option Err
  | .error e => some e
  | .ok _ => none

/-- `getName_rows`, `add_preserves_old_rows`: `db["a"]` returns the two fingerprints named "a", in
row order, with their property values; row 0 reads the same before and after the addition -/
example : ((db1.add batch).1.getName "a").toOption.map (·.map (fun f => (f.fp.idx, f.name, f.props))) =
      some [([1, 2], some "a", [("w", .int 1)]), ([3], some "a", [("w", .int 3)])] ∧
    ((db1.add batch).1.fprintAt 0).toOption = (db1.fprintAt 0).toOption := by decide +kernel

/-- `getIndex_neg`, `getIndex_out_of_range`: `db[-1]` is the last row, `db[2]` and `db[-3]` raise -/
example : db1.fpNum = 2 ∧ db1.getIndex (1 - (db1.fpNum : Int)) = db1.getIndex 1 ∧
    (db1.getIndex (-1)).toOption = (db1.getIndex 1).toOption ∧
    errOf (db1.getIndex 2) = some .index ∧ errOf (db1.getIndex (-3)) = some .index ∧
    (db1.getIndex 1).toOption.map (·.name) = some (some "b") :=
  ⟨by decide +kernel, getIndex_neg db1 1 (by decide +kernel) (by decide +kernel), by decide +kernel⟩

/-- `subset_inv`, `asType_inv`: the operations succeed on the sample database -/
example : (db1.subset ["b"] none).toOption.isSome ∧ (db1.asType .count).toOption.isSome := by decide +kernel

/-- `fold_inv`: folding the sample database from 8 to 4 bits succeeds -/
example : ∃ d, db1.fold 4 none none = .ok d := by
  have h : (db1.fold 4 none none).toOption.isSome = true := by decide +kernel
  cases e : db1.fold 4 none none with
  | ok d => exact ⟨d, rfl⟩
  | error _ => rewrite [e] at h; cases h

/-- Columns declared on a database that has no rows yet are respected by the first addition: a batch
that does not provide `"k"` is refused and the database is unchanged; a batch that provides it is
accepted and the column is aligned (`known_findings.json`, C05/C16 "columns declared on an empty
database", records the defect this excludes). -/
theorem add_respects_declared_columns :
    let db : Db := ((Db.new .bit 0 none).setProp "k" []).1
    db.Inv ∧ db.props = [("k", [])] ∧
    db.add [⟨f1, some "a", []⟩] = (db, some .key) ∧
    (db.add [⟨f1, some "a", [("k", .int 7)]⟩]).2 = none ∧
    (db.add [⟨f1, some "a", [("k", .int 7)]⟩]).1.props = [("k", [.int 7])] ∧
    (db.add [⟨f1, some "a", [("k", .int 7)]⟩]).1.fpNum = 1 := by
  exact ⟨setProp_inv _ _ _ (inv_new _ _ _), by decide +kernel⟩

end Examples

end E3fpVerif.Props.C05
