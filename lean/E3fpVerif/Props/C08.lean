import E3fpVerif.Model.Db
import E3fpVerif.Gen.DbIO
import E3fpVerif.Lemmas.DbCast
import E3fpVerif.Props.C05
/-!
# C08 — saving and loading a database is lossless

The key table of `savez` / `load` (generated, `Gen/DbIO.lean`) is consistent; the pickle round trip rebuilds the
name index and is the identity under the invariant; `load(savez(db))` is `as_type` at the database's own kind, so
the identity on dtype-stable values (`savezLoad_id`) and idempotent always; last, `savetxt`'s lines characterised.
-/
namespace E3fpVerif.Props.C08
open E3fpVerif

/-- every key `load` reads is a key `savez` writes, and vice versa -/
theorem keys_agree : ∀ k, k ∈ Gen.loadKeys ↔ k ∈ Gen.savezKeys :=
  -- the two generated key lists are permutations of one another
  fun _ => (by decide +kernel : Gen.loadKeys.Perm Gen.savezKeys).mem_iff

/-- no reserved key can be mistaken for a property column: none starts with the prefix -/
theorem reserved_not_prefixed : ∀ k ∈ Gen.savezKeys, Gen.loadPrefix.toList.isPrefixOf k.toList = false := by
  -- a string literal is `String.ofList` of its characters: `toList` is read off each key, not evaluated through the bytes
  simp only [Gen.savezKeys, Gen.loadPrefix, List.forall_mem_cons]
  repeat rw [String.toList_ofList]
  decide +kernel

/-- prefixing is injective and stripping inverts it, so property columns are recovered under their own names whatever they are called -/
theorem strip_prefix (k : String) : ((Gen.propPrefix ++ k).toList.drop Gen.loadStrip) = k.toList ∧
    Gen.loadPrefix.toList.isPrefixOf (Gen.propPrefix ++ k).toList = true := by
  simp [Gen.propPrefix, Gen.loadPrefix, Gen.loadStrip]

/-- `load` tests the very prefix `savez` writes and strips exactly its length -/
theorem prefix_consistent : Gen.loadPrefix = Gen.propPrefix ∧ Gen.loadStrip = Gen.propPrefix.length := by decide +kernel

/-- pickling rebuilds the name index from the names; for a database whose index is the canonical
one (`Db.Inv.canonical`; every database a history builds, `history_inv` in `Props/C05Hist.lean`) it is the
identity -/
theorem pickle_rt (db : Db) (h : db.namesMap = updateNamesMap [] db.fpNames 0) : db.pickleRoundTrip = db := by
  rw [Db.pickleRoundTrip, ← h]

theorem pickle_idem (db : Db) : db.pickleRoundTrip.pickleRoundTrip = db.pickleRoundTrip := by
  simp [Db.pickleRoundTrip]

/-- **`load(savez(db))` on a well-kept database**: with the canonical index, duplicate-free keys and
columns as long as the name list, the cycle succeeds and changes nothing but the stored values, which
it casts to the dtype -/
theorem savezLoad_eq_cast (db : Db) (a : List Row) (ha : db.array = some a)
    (hidx : db.namesMap = updateNamesMap [] db.fpNames 0)
    (hnd : (db.props.map Prod.fst).Nodup)
    (hlen : ∀ c ∈ db.props, c.2.length = db.fpNames.length) :
    db.savezLoad = .ok { db with array := some (a.map (fun r => r.map (fun p => (p.1, castVal db.fpType p.2)))) } := by
  refine (C05.asType_eq_ok db db.fpType _).2 ⟨a, ha, hlen, ?_⟩
  rw [foldl_colSet_insert db.props hnd, ← hidx]

theorem castRows_id {k : Kind} {a : List Row} (h : ∀ r ∈ a, ∀ p ∈ r, castVal k p.2 = p.2) :
    a.map (fun r => r.map (fun p => (p.1, castVal k p.2))) = a := by
  rw [List.map_congr_left (g := id), List.map_id]
  intro r hr
  exact (List.map_congr_left fun p hp => by rewrite [h r hr p hp]; rfl).trans (List.map_id r)

/-- **saving and loading a database is lossless** -/
theorem savezLoad_id (db : Db) (a : List Row) (hi : db.Inv) (ha : db.array = some a)
    (hcast : ∀ r ∈ a, ∀ p ∈ r, castVal db.fpType p.2 = p.2) : db.savezLoad = .ok db := by
  rw [savezLoad_eq_cast db a ha hi.canonical hi.keys_nodup hi.cols_names, castRows_id hcast, ← ha]

/-- what `load(savez(db))` is when it succeeds: the rows cast to the dtype, the index rebuilt, the
columns re-inserted -/
theorem savezLoad_ok (db d : Db) (h : db.savezLoad = .ok d) :
    ∃ a, db.array = some a ∧ (∀ c ∈ db.props, c.2.length = db.fpNames.length) ∧
      d = { db with array := some (a.map (fun r => r.map (fun p => (p.1, castVal db.fpType p.2)))),
                    namesMap := updateNamesMap [] db.fpNames 0,
                    props := db.props.foldl (fun acc c => colSet acc c.1 c.2) [] } :=
  (C05.asType_eq_ok db db.fpType d).1 h

/-- a second save/load cycle changes nothing (no hypothesis on `db`) -/
theorem savezLoad_idem (db d : Db) (h : db.savezLoad = .ok d) : d.savezLoad = .ok d := by
  obtain ⟨a, ha, hc, rfl⟩ := savezLoad_ok db d h
  have hp := foldl_colSet_pairs_forall (fun v => v.length = db.fpNames.length) db.props hc [] List.nodup_nil (List.forall_mem_nil _)
  rw [savezLoad_eq_cast _ _ rfl rfl hp.1 hp.2, castRows_id (a := List.map _ a)]
  simp only [List.forall_mem_map, castVal_idem, implies_true]

/-- the loaded database satisfies the invariant whenever the saved one did (`load(savez(db))` is
`as_type` at the database's own kind) -/
theorem savezLoad_inv (db d : Db) (hi : db.Inv) (h : db.savezLoad = .ok d) : d.Inv :=
  C05.asType_inv db db.fpType d hi h

/-- saving never fails on a non-empty database satisfying the invariant; what may change is only
the stored values (cast to the dtype) -/
theorem savezLoad_succeeds (db : Db) (a : List Row) (hi : db.Inv) (ha : db.array = some a) :
    ∃ d, db.savezLoad = .ok d ∧ d.fpNames = db.fpNames ∧ d.namesMap = db.namesMap ∧ d.props = db.props ∧
      d.array = some (a.map (fun r => r.map (fun p => (p.1, castVal db.fpType p.2)))) :=
  ⟨_, savezLoad_eq_cast db a ha hi.canonical hi.keys_nodup hi.cols_names, rfl, rfl, rfl, rfl⟩

/-- the unpickled database has the canonical index, whatever the index of the pickled one was -/
theorem pickle_index (db : Db) :
    db.pickleRoundTrip.namesMap = updateNamesMap [] db.pickleRoundTrip.fpNames 0 := rfl

/-- under the invariant pickling is the identity, and so preserves the invariant -/
theorem pickle_inv (db : Db) (h : db.Inv) : db.pickleRoundTrip = db ∧ db.pickleRoundTrip.Inv := by
  have e := pickle_rt db h.canonical
  exact ⟨e, by rewrite [e]; exact h⟩

/-- pickling repairs a damaged index: whatever is put in place of the index of a database
satisfying the invariant, unpickling gives the database back -/
theorem pickle_repairs (db : Db) (m : List (Option String × List Nat)) (h : db.Inv) :
    ({ db with namesMap := m } : Db).pickleRoundTrip = db :=
  pickle_rt db h.canonical

section Examples

private def f1 : Fp := ⟨.bit, 8, 0, [1, 2], []⟩
private def f2 : Fp := ⟨.bit, 8, 0, [3], []⟩
private def db1 : Db :=
  (Db.new .bit 0 (some "x")).addOk [⟨f1, some "a", [("w", .int 1)]⟩, ⟨f2, some "a", [("w", .int 2)]⟩]

private theorem db1_inv : db1.Inv := C05.inv_addOk _ _ (C05.inv_new _ _ _)

private theorem db1_savezLoad : db1.savezLoad = .ok db1 := savezLoad_id db1 _ db1_inv rfl (by decide +kernel)

/-- `savezLoad_id`, `savezLoad_idem`, `pickle_inv`: the hypotheses hold of a two-row bit database
with a repeated name and a property column -/
example : db1.savezLoad = .ok db1 ∧ db1.pickleRoundTrip = db1 ∧ db1.fpNum = 2 :=
  ⟨db1_savezLoad, (pickle_inv db1 db1_inv).1, by decide +kernel⟩

example : ∃ d, db1.savezLoad = .ok d ∧ d.savezLoad = .ok d :=
  ⟨db1, db1_savezLoad, savezLoad_idem db1 db1 db1_savezLoad⟩

/-- the dtype hypothesis of `savezLoad_id` cannot be dropped: a bit database holding a stored 2
(`from_array` accepts it, `add` never produces it) is loaded with a 1 in its place -/
theorem savezLoad_casts :
    let db : Db := { db1 with array := some [[(1, 2)], [(3, 1)]] }
    (db.savezLoad.toOption.map (·.array)) = some (some [[(1, 1)], [(3, 1)]]) := by decide +kernel

end Examples

/-! ## the text export

`savetxt` of a binary database writes **exactly one bit string of the database's length per row, in
row order, followed by the fingerprint's name when names are requested**.  `Db.savetxtLines` (the
function the driver runs against `savetxt`) is characterised completely. -/

theorem bitstringOfRow_length (bits : Nat) (r : Row) : (bitstringOfRow bits r).length = bits := by
  simp [bitstringOfRow]

/-- position `j` of the bit string is set exactly when the row stores column `j` -/
theorem bitstringOfRow_get (bits : Nat) (r : Row) (j : Nat) (hj : j < bits) :
    (bitstringOfRow bits r)[j]'(by simpa [bitstringOfRow] using hj) = r.any (fun p => p.1 == j) := by
  simp [bitstringOfRow]

/-- one line per row (and per name): under the invariant, one line per fingerprint -/
theorem savetxtLines_length (db : Db) (w : Bool) (hi : db.Inv) : (db.savetxtLines w).length = db.fpNum := by
  unfold Db.savetxtLines
  rw [List.length_map, List.length_zip, hi.names_length, ← fpNum_eq, Nat.min_self]

/-- the `i`-th line is the line of the `i`-th row and the `i`-th name: row order is kept -/
theorem savetxtLines_get (db : Db) (w : Bool) (a : List Row) (ha : db.array = some a) (i : Nat) (r : Row)
    (nm : Option String) (hr : a[i]? = some r) (hn : db.fpNames[i]? = some nm) :
    (db.savetxtLines w)[i]? = some (savetxtLine db.bits w r nm) := by
  have hz : (a.zip db.fpNames)[i]? = some (r, nm) := List.getElem?_zip_eq_some.2 ⟨hr, hn⟩
  simp only [Db.savetxtLines, ha, Option.getD_some, List.getElem?_map, hz, Option.map_some]

/-- a line begins with the bit string of the database's length … -/
theorem savetxtLine_bits (bits : Nat) (w : Bool) (r : Row) (nm : Option String) :
    (savetxtLine bits w r nm).take bits = (bitstringOfRow bits r).map (fun b => if b then '1' else '0') := by
  exact List.take_left' (by rw [List.length_map, bitstringOfRow_length])

/-- … which consists of the characters `0` and `1` only … -/
theorem savetxtLine_bits_chars (bits : Nat) (w : Bool) (r : Row) (nm : Option String) :
    ∀ c ∈ (savetxtLine bits w r nm).take bits, c = '0' ∨ c = '1' := by
  rewrite [savetxtLine_bits]
  intro c hc
  obtain ⟨b, _, rfl⟩ := List.mem_map.1 hc
  cases b <;> simp

/-- … and is followed by nothing when names are not requested, by a blank and the name otherwise
(`None` for a fingerprint without name) -/
theorem savetxtLine_rest (bits : Nat) (w : Bool) (r : Row) (nm : Option String) :
    (savetxtLine bits w r nm).drop bits = if w then ' ' :: (nm.getD "None").toList else [] := by
  exact List.drop_left' (by rw [List.length_map, bitstringOfRow_length])

/-- length of a line without names: exactly the database's length -/
theorem savetxtLine_length_nonames (bits : Nat) (r : Row) (nm : Option String) :
    (savetxtLine bits false r nm).length = bits := by
  simp [savetxtLine, bitstringOfRow]

/-- the stored order of a row's cells is irrelevant to its line (`from_array` accepts unsorted rows; the
finding under C08 in `known_findings.json` is a `savetxt` that depended on it) -/
theorem savetxtLine_perm (bits : Nat) (w : Bool) (r r' : Row) (nm : Option String) (h : r.Perm r') :
    savetxtLine bits w r nm = savetxtLine bits w r' nm := by
  unfold savetxtLine bitstringOfRow
  congr 2
  apply List.map_congr_left
  intro j _
  exact h.any_eq

example : String.mk (savetxtLine 8 true [(5, 1), (1, 1)] (some "m_0")) = "01000100 m_0" ∧
    String.mk (savetxtLine 8 false [(5, 1), (1, 1)] none) = "01000100" ∧
    String.mk (savetxtLine 4 true [] none) = "0000 None" := by decide +kernel

end E3fpVerif.Props.C08
