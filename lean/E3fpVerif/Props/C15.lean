import E3fpVerif.Model.Batch
/-!
# C15 — batch runs are schedule-independent, isolate failures, and resume safely

Collected rows: a permutation of the schedule permutes them (`schedule_free`) and failed inputs drop out
(`isolation`).  Output files: a run is a fold of `processInput` over the file system; without `overwrite` it is
"existing files win, then the first writer" (`batchFiles_false_get`), from which the resumption theorems follow.
-/
namespace E3fpVerif.Props.C15
open E3fpVerif

variable {ι ρ κ : Type}

/-- whatever the completion order, the same named rows are collected (only row order may differ) -/
theorem schedule_free (outcome : ι → Outcome ρ) (s₁ s₂ : List ι) (h : s₁.Perm s₂) :
    (batchRows outcome s₁).Perm (batchRows outcome s₂) := by
  unfold batchRows collect
  exact (h.map outcome).flatMap_right _

/-- an input that fails contributes nothing and does not affect the others -/
theorem isolation (outcome : ι → Outcome ρ) (s : List ι) :
    batchRows outcome s = batchRows outcome (s.filter (fun i => (outcome i).isSome)) := by
  unfold batchRows collect
  induction s with
  | nil => rfl
  | cons a t ih =>
    simp only [List.map_cons, List.flatMap_cons, List.filter_cons]
    cases ha : outcome a with
    | none => simp [ih]
    | some r => simp [ih, ha]

/-! ## `schedule_free` as counts, membership and length; which rows are collected -/

/-- every row is collected the same number of times whatever the order of the inputs -/
theorem input_order [DecidableEq ρ] (outcome : ι → Outcome ρ) (s₁ s₂ : List ι) (h : s₁.Perm s₂) (x : ρ) :
    (batchRows outcome s₁).count x = (batchRows outcome s₂).count x :=
  (schedule_free outcome s₁ s₂ h).count_eq x

/-- the same rows are present -/
theorem input_order_mem (outcome : ι → Outcome ρ) (s₁ s₂ : List ι) (h : s₁.Perm s₂) (x : ρ) :
    x ∈ batchRows outcome s₁ ↔ x ∈ batchRows outcome s₂ :=
  (schedule_free outcome s₁ s₂ h).mem_iff

/-- the same number of rows is collected -/
theorem input_order_length (outcome : ι → Outcome ρ) (s₁ s₂ : List ι) (h : s₁.Perm s₂) :
    (batchRows outcome s₁).length = (batchRows outcome s₂).length :=
  (schedule_free outcome s₁ s₂ h).length_eq

/-- in particular for the reversed input list -/
theorem input_order_reverse (outcome : ι → Outcome ρ) (s : List ι) :
    (batchRows outcome s.reverse).Perm (batchRows outcome s) :=
  schedule_free outcome _ _ (List.reverse_perm s)

/-- a row is collected iff some input succeeds with it -/
theorem mem_batchRows (outcome : ι → Outcome ρ) (s : List ι) (x : ρ) :
    x ∈ batchRows outcome s ↔ ∃ i ∈ s, ∃ rows, outcome i = some rows ∧ x ∈ rows := by
  simp only [batchRows, collect, List.flatMap_map, List.mem_flatMap]
  refine exists_congr fun i => and_congr_right fun _ => ?_
  cases outcome i <;> simp

example : batchRows (fun i : Nat => if i = 1 then none else some [i, 10 * i]) [2, 1, 3] = [2, 20, 3, 30] ∧
    (batchRows (fun i : Nat => if i = 1 then none else some [i, 10 * i]) [3, 2, 1]).count 20 = 1 := by decide +kernel

/-! ## what a run writes -/

theorem fsGet_put_same (fs : FS κ) (p : String) (c : κ) : fsGet (fsPut fs p c) p = some c := by
  simp [fsGet, fsPut]

theorem fsGet_put_other (fs : FS κ) (p q : String) (c : κ) (h : q ≠ p) : fsGet (fsPut fs p c) q = fsGet fs q := by
  unfold fsGet fsPut
  rewrite [List.find?_cons_of_neg (decide_eq_false h.symm ▸ Bool.false_ne_true), List.find?_filter]
  -- among entries at `q`, the filter `≠ p` removes nothing
  refine congrArg (Option.map Prod.snd) (congrArg (List.find? · fs) (funext fun e => decide_eq_decide.2 ?_))
  exact ⟨fun he => of_decide_eq_true he.2, fun he => ⟨decide_eq_true (he ▸ h), decide_eq_true he⟩⟩

theorem processInput_other (ow : Bool) (fs : FS κ) (path : String) (content : Option κ) (q : String)
    (h : q ≠ path) : fsGet (processInput ow fs path content) q = fsGet fs q := by
  cases content with
  | none => rfl
  | some c =>
    -- written or not, `q` reads the same
    refine (apply_ite (fsGet · q) _ fs (fsPut fs path c)).trans ?_
    rw [fsGet_put_other fs path q c h, ite_self]

theorem batchFiles_other (ow : Bool) (jobs : List (String × Option κ)) (fs : FS κ) (q : String)
    (h : q ∉ jobs.map Prod.fst) : fsGet (batchFiles ow jobs fs) q = fsGet fs q := by
  unfold batchFiles
  induction jobs generalizing fs with
  | nil => rfl
  | cons j t ih =>
    rewrite [List.map_cons, List.mem_cons, not_or] at h
    rewrite [List.foldl_cons, ih _ h.2]
    exact processInput_other ow fs j.1 j.2 q h.1

/-- failed inputs write nothing -/
theorem failed_writes_nothing (ow : Bool) (fs : FS κ) (path : String) :
    processInput ow fs path (none : Option κ) = fs := rfl

/-- with `overwrite` on, every input that succeeds ends with the content of this run, whatever
the file system held before -/
theorem overwrite_regenerates (jobs : List (String × Option κ)) (fs : FS κ)
    (hnd : (jobs.map Prod.fst).Nodup) (p : String) (c : κ) (hj : (p, some c) ∈ jobs) :
    fsGet (batchFiles true jobs fs) p = some c := by
  induction jobs generalizing fs with
  | nil => cases hj
  | cons j t ih =>
    simp only [List.map_cons, List.nodup_cons] at hnd
    show fsGet (batchFiles true t (processInput true fs j.1 j.2)) p = some c
    rcases List.mem_cons.mp hj with hj | hj
    · subst hj
      rewrite [batchFiles_other true t _ p hnd.1]
      simp [processInput, fsGet_put_same]
    · exact ih _ hnd.2 hj

/-- non-vacuity: "b" is absent and gets written, "a" is present and kept, "c" fails -/
example : fsGet (batchFiles false [("a", some 1), ("b", some 2), ("c", none)] [("a", 7)]) "b" = some 2 ∧
    fsGet (batchFiles false [("a", some 1), ("b", some 2), ("c", none)] [("a", 7)]) "a" = some 7 ∧
    fsGet (batchFiles false [("a", some 1), ("b", some 2), ("c", none)] [("a", 7)]) "c" = none ∧
    fsGet (batchFiles true [("a", some 1), ("b", some 2), ("c", none)] [("a", 7)]) "a" = some 1 := by decide +kernel

/-- distinct output paths are needed for `overwrite_regenerates`: the last writer wins -/
example : fsGet (batchFiles true [("a", some 1), ("a", some 2)] ([] : FS Nat)) "a" = some 2 := by decide +kernel

/-! ## a run without overwrite: existing files win, then the first writer; hence resuming is safe -/

/-- the content the first successful job for path `p` writes -/
def firstContent (jobs : List (String × Option κ)) (p : String) : Option κ :=
  (jobs.find? (fun j => decide (j.1 = p) && j.2.isSome)).bind Prod.snd

theorem firstContent_cons (j : String × Option κ) (t : List (String × Option κ)) (p : String) :
    firstContent (j :: t) p = if j.1 = p then j.2.or (firstContent t p) else firstContent t p := by
  obtain ⟨q, c⟩ := j
  unfold firstContent
  rewrite [List.find?_cons]
  by_cases hq : q = p
  · rewrite [if_pos hq, decide_eq_true hq]
    cases c <;> rfl
  · rewrite [if_neg hq, decide_eq_false hq]; rfl

theorem processInput_same (fs : FS κ) (q : String) (c : Option κ) :
    fsGet (processInput false fs q c) q = (fsGet fs q).or c := by
  cases c with
  | none => exact Option.or_none.symm
  | some c =>
    unfold processInput
    cases hget : fsGet fs q with
    | none => exact fsGet_put_same fs q c
    | some x => exact hget

/-- without `overwrite` a run is "first writer wins, existing files win over all" -/
theorem batchFiles_false_get (jobs : List (String × Option κ)) (fs : FS κ) (p : String) :
    fsGet (batchFiles false jobs fs) p = (fsGet fs p).or (firstContent jobs p) := by
  induction jobs generalizing fs with
  | nil => exact Option.or_none.symm
  | cons j t ih =>
    rewrite [show batchFiles false (j :: t) fs = batchFiles false t (processInput false fs j.1 j.2) from rfl, ih,
           firstContent_cons]
    by_cases hq : j.1 = p
    · rw [if_pos hq, ← hq, processInput_same, Option.or_assoc]
    · rw [if_neg hq, processInput_other false fs j.1 j.2 p (Ne.symm hq)]

/-- without `overwrite`, a file that exists before the (re-)run is never written again -/
theorem resume_safe (jobs : List (String × Option κ)) (fs : FS κ) (p : String) (c : κ) (h : fsGet fs p = some c) :
    fsGet (batchFiles false jobs fs) p = some c := by
  rewrite [batchFiles_false_get, h]; rfl

theorem firstContent_of_mem (jobs : List (String × Option κ)) (hnd : (jobs.map Prod.fst).Nodup) (p : String) (c : κ)
    (hj : (p, some c) ∈ jobs) : firstContent jobs p = some c := by
  induction jobs with
  | nil => cases hj
  | cons j t ih =>
    rewrite [List.map_cons, List.nodup_cons] at hnd
    rewrite [firstContent_cons]
    rcases List.mem_cons.1 hj with rfl | hj
    · rewrite [if_pos rfl]; rfl
    · rw [if_neg fun (e : j.1 = p) => hnd.1 (e ▸ List.mem_map.2 ⟨_, hj, rfl⟩), ih hnd.2 hj]

/-- without `overwrite`, every input that succeeds and whose output was absent before the run ends
with the content of this run -/
theorem resume_complete (jobs : List (String × Option κ)) (fs : FS κ)
    (hnd : (jobs.map Prod.fst).Nodup) (p : String) (c : κ) (hj : (p, some c) ∈ jobs)
    (habs : fsGet fs p = none) :
    fsGet (batchFiles false jobs fs) p = some c := by
  rewrite [batchFiles_false_get, habs, firstContent_of_mem jobs hnd p c hj]; rfl

/-- a resumed run completes the batch: outputs present before are kept (`resume_safe`), the others
are written -/
theorem resume_total (jobs : List (String × Option κ)) (fs : FS κ)
    (hnd : (jobs.map Prod.fst).Nodup) (p : String) (c : κ) (hj : (p, some c) ∈ jobs) :
    fsGet (batchFiles false jobs fs) p = some ((fsGet fs p).getD c) := by
  rewrite [batchFiles_false_get, firstContent_of_mem jobs hnd p c hj]
  cases fsGet fs p <;> rfl

theorem firstContent_take (jobs : List (String × Option κ)) (k : Nat) (p : String) :
    (firstContent (jobs.take k) p).or (firstContent jobs p) = firstContent jobs p := by
  have hsplit : firstContent jobs p = firstContent (jobs.take k ++ jobs.drop k) p := by
    rw [List.take_append_drop]
  rewrite [hsplit]
  unfold firstContent
  rewrite [List.find?_append]
  generalize List.find? _ (jobs.take k) = x
  cases x with
  | none => rfl
  | some j => exact Option.or_self

/-- a run without `overwrite` that is interrupted after any number of inputs and then started
again over the whole input list leaves every path as an uninterrupted run would -/
theorem resume_equals_clean (jobs : List (String × Option κ)) (fs : FS κ) (k : Nat) (p : String) :
    fsGet (batchFiles false jobs (batchFiles false (jobs.take k) fs)) p = fsGet (batchFiles false jobs fs) p := by
  rewrite [batchFiles_false_get, batchFiles_false_get, batchFiles_false_get]
  cases fsGet fs p with
  | some x => rfl
  | none => exact firstContent_take jobs k p

/-- running the finished batch again changes nothing -/
theorem rerun_noop (jobs : List (String × Option κ)) (fs : FS κ) (p : String) :
    fsGet (batchFiles false jobs (batchFiles false jobs fs)) p = fsGet (batchFiles false jobs fs) p := by
  have := resume_equals_clean jobs fs jobs.length p
  rwa [List.take_length] at this

example : fsGet (batchFiles false [("a", some 1), ("b", some 2)] (batchFiles false [("a", some 1)] [("z", 0)])) "b"
    = fsGet (batchFiles false [("a", some 1), ("b", some 2)] [("z", 0)]) "b" := by decide +kernel

end E3fpVerif.Props.C15
