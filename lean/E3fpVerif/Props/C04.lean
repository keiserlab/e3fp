import E3fpVerif.Model.FpObj
import E3fpVerif.Lemmas.Fprinter
/-!
# C04 — fingerprinting is a pure function of (molecule, conformer, options)

On the object model of `Model/FpObj.lean`: `FpObj.run` is `reset`, then the iteration (`run_eq`); the
molecule-scoped caches stay those of the cached molecule over every history (`CacheValid`, `run_cacheValid`),
and from such a state a run is the run of a fresh fingerprinter (`run_eq_fresh`).
-/
namespace E3fpVerif.Props.C04
open E3fpVerif

/-- the molecule-scoped caches are those of the molecule the cached identity denotes -/
def CacheValid (f : FpObj) : Prop :=
  f.molId.isSome → (f.atoms = retained f.o f.molVal ∧ f.initIds = f.atoms.map (fun a => (a, initIdent f.o f.molVal a)))

theorem lookupId_map (F : Nat → Int) (atoms : List Nat) (a : Nat) (h : a ∈ atoms) :
    lookupId (atoms.map (fun a => (a, F a))) a = F a := by
  induction atoms with
  | nil => cases h
  | cons b bs ih =>
    unfold lookupId at ih ⊢
    rewrite [List.map_cons, List.find?_cons]
    by_cases hb : b = a
    · rw [decide_eq_true hb, hb]
    · rewrite [decide_eq_false hb]
      exact ih ((List.mem_cons.1 h).resolve_left (Ne.symm hb))

/-- level 0 built from valid caches is level 0 built from the molecule -/
theorem initStateCached_eq (o : Opts) (m : MolG) (atoms : List Nat) :
    initStateCached (atoms.map (fun a => (a, initIdent o m a))) atoms = initState o m atoms := by
  have : genLevel0Cached (atoms.map (fun a => (a, initIdent o m a))) atoms [] = genLevel0 o m atoms [] := by
    unfold genLevel0Cached genLevel0
    apply foldl_congr_mem
    intro acc a ha
    rw [lookupId_map (initIdent o m) atoms a ha]
  unfold initStateCached initState
  rw [this]

/-! ## `run` = reset, then iterate

`FpObj.run` first brings the object into the state `reset f mid m` (conformer state dropped; the
molecule-scoped caches recomputed unless `mid` is the cached identity) and then only writes `state`.
What a run does to the caches is therefore a fact about `reset`, proved by one case distinction. -/

def reset (f : FpObj) (mid : Option Nat) (m : MolG) : FpObj :=
  if mid.isSome && mid == f.molId then { f with state := none }
  else { f with molId := mid, atoms := retained f.o m,
                initIds := (retained f.o m).map (fun a => (a, initIdent f.o m a)), molVal := m, state := none }

theorem run_eq (f : FpObj) (mid : Option Nat) (m : MolG) (g : Geo) :
    f.run mid m g =
      let r := reset f mid m
      if m.bonds.any (fun e => e.2.2 = 0) then ({ f with state := none }, .error .key)
      else if r.atoms = [] then (r, .error .value)
      else ({ r with state := some (iterate f.o r.molVal g r.atoms (runFuel f.o r.atoms)
                (initStateCached r.initIds r.atoms)) }, .ok ()) := rfl

/-- apart from `state`, a run leaves the object as `reset` does (or untouched, on a bad bond type):
what does not depend on `state` and survives the reset survives the run -/
theorem run_inv (P : FpObj → Prop) (hst : ∀ x st, P x → P { x with state := st }) (f : FpObj)
    (mid : Option Nat) (m : MolG) (g : Geo) (hf : P f) (hr : P (reset f mid m)) : P (f.run mid m g).1 := by
  rewrite [run_eq]
  dsimp only
  cases m.bonds.any (fun e => decide (e.2.2 = 0))
  · rewrite [if_neg Bool.false_ne_true]
    by_cases he : (reset f mid m).atoms = []
    · rewrite [if_pos he]; exact hr
    · rewrite [if_neg he]; exact hst _ _ hr
  · exact hst _ _ hf

theorem reset_o (f : FpObj) (mid : Option Nat) (m : MolG) : (reset f mid m).o = f.o := by
  unfold reset; cases (mid.isSome && mid == f.molId) <;> rfl

theorem reset_state (f : FpObj) (mid : Option Nat) (m : MolG) : (reset f mid m).state = none := by
  unfold reset; cases (mid.isSome && mid == f.molId) <;> rfl

theorem reset_cacheValid (f : FpObj) (hv : CacheValid f) (mid : Option Nat) (m : MolG) :
    CacheValid (reset f mid m) := by
  unfold reset
  cases (mid.isSome && mid == f.molId)
  · exact fun _ => ⟨rfl, rfl⟩
  · exact hv

/-- whether the caches are reused or recomputed, after the reset they are those of `m` -/
theorem reset_fields (f : FpObj) (hv : CacheValid f) (mid : Option Nat) (m : MolG)
    (hden : mid.isSome → mid = f.molId → f.molVal = m) :
    (reset f mid m).atoms = retained f.o m ∧
    (reset f mid m).initIds = (retained f.o m).map (fun a => (a, initIdent f.o m a)) ∧
    (reset f mid m).molVal = m := by
  unfold reset
  cases hs : (mid.isSome && mid == f.molId)
  · exact ⟨rfl, rfl, rfl⟩
  · obtain ⟨h1, h2⟩ := Bool.and_eq_true_iff.1 hs
    have h2 : mid = f.molId := eq_of_beq h2
    have hm := hden h1 h2
    obtain ⟨ha, hi⟩ := hv (h2 ▸ h1)
    exact ⟨by rewrite [← hm]; exact ha, by rewrite [← hm, ← ha]; exact hi, hm⟩

/-- **history irrelevance**: whatever the object processed before (any state with valid caches),
a run on molecule `m` / geometry `g` leaves exactly the state, and returns the result, a fresh fingerprinter
computes - provided the cached identity, if it is the one passed, denotes `m` (`hden`: the molecule object
was not edited in place), and the options are not the pair the constructor refuses (`FpObj.new` is total) -/
theorem run_eq_fresh (f : FpObj) (hv : CacheValid f) (mid : Option Nat) (m : MolG) (g : Geo)
    (hden : mid.isSome → mid = f.molId → f.molVal = m) :
    ((f.run mid m g).1.state, (f.run mid m g).2) =
      (match runFp f.o m g with | .ok s => (some s, .ok ()) | .error e => (none, .error e)) ∨
    (f.o.level = -1 ∧ f.o.removeDup = false) := by
  by_cases hc : f.o.level = -1 ∧ f.o.removeDup = false
  · exact Or.inr hc
  · left
    have hc' : (f.o.level = -1 && !f.o.removeDup) = false := by simpa using hc
    obtain ⟨ha, hi, hm⟩ := reset_fields f hv mid m hden
    rewrite [run_eq]
    dsimp only
    unfold runFp runFuel
    rewrite [hc']
    cases m.bonds.any fun e => decide (e.2.2 = 0)
    · simp only [Bool.false_eq_true, if_false, ha]
      by_cases he : retained f.o m = []
      · simp only [he, if_true, reset_state]
      · simp only [he, if_false, hi, hm, initStateCached_eq]
    · rfl

/-- the caches stay valid over every history -/
theorem run_cacheValid (f : FpObj) (hv : CacheValid f) (mid : Option Nat) (m : MolG) (g : Geo) :
    CacheValid (f.run mid m g).1 :=
  run_inv CacheValid (fun _ _ h => h) f mid m g hv (reset_cacheValid f hv mid m)

theorem new_cacheValid (o : Opts) : CacheValid (FpObj.new o) := by
  intro h; simp [FpObj.new] at h

end E3fpVerif.Props.C04
