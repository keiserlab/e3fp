import E3fpVerif.Props.C16
/-!
# C05 (columns) — a concatenation aligns property columns by *name*, whatever order they were declared in

`concat` builds the column of key `k` from each operand's column *named* `k` (`C16.concatCol`).  Here:
the order in which an operand holds its columns is immaterial - replacing an operand by one whose columns
are a permutation of its own leaves the concatenation's rows, names, name index and every column
unchanged (only the order of the keys in the result's own dict may move).  This is the clause a change
that pairs the columns up *by position* breaks (seeded change C05-concat-props-by-position).
-/
namespace E3fpVerif.Props.C05Cols
open E3fpVerif E3fpVerif.Props.C16

theorem colLookup_eq_some_iff (ps : Cols) (hn : (ps.map Prod.fst).Nodup) (k : String) (v : List PVal) :
    colLookup ps k = some v ↔ (k, v) ∈ ps := by
  rewrite [colLookup_eq_lookup]; exact lookup_eq_some_iff_mem hn

/-- **a lookup does not see the order of the columns** -/
theorem colLookup_perm (ps qs : Cols) (hp : qs.Perm ps) (hn : (ps.map Prod.fst).Nodup) (k : String) :
    colLookup qs k = colLookup ps k := by
  rewrite [colLookup_eq_lookup, colLookup_eq_lookup]; exact (lookup_perm hp.symm hn k).symm

/-- the operand `d` with its columns held in another order -/
def reordered (d : Db) (ps' : Cols) : Db := { d with props := ps' }

theorem concatCol_order_free (pre post : List Db) (d : Db) (ps' : Cols) (hp : ps'.Perm d.props)
    (hn : (d.props.map Prod.fst).Nodup) (k : String) :
    concatCol (pre ++ reordered d ps' :: post) k = concatCol (pre ++ d :: post) k := by
  simp only [concatCol, List.flatMap_append, List.flatMap_cons, reordered, colLookup_perm d.props ps' hp hn k]

theorem concatRows_order_free (pre post : List Db) (d : Db) (ps' : Cols) :
    concatRows (pre ++ reordered d ps' :: post) = concatRows (pre ++ d :: post) := by
  simp only [concatRows, List.flatMap_append, List.flatMap_cons, reordered]

theorem mem_concatKeys_order_free (pre post : List Db) (d : Db) (ps' : Cols) (hp : ps'.Perm d.props) (k : String) :
    k ∈ concatKeys (pre ++ reordered d ps' :: post) ↔ k ∈ concatKeys (pre ++ d :: post) := by
  simp only [mem_concatKeys, List.mem_append, List.mem_cons, or_and_right, exists_or, exists_eq_left, reordered,
    (hp.map Prod.fst).mem_iff]

theorem colLookup_result (dbs : List Db) (k : String) :
    colLookup ((concatKeys dbs).map (fun k => (k, concatCol dbs k))) k =
      if k ∈ concatKeys dbs then some (concatCol dbs k) else none := by
  generalize concatKeys dbs = ks
  induction ks with
  | nil => simp [colLookup]
  | cons a rest ih =>
    by_cases e : a = k
    · subst e; simp [colLookup]
    · have : ¬ k = a := fun h => e h.symm
      simp only [List.map_cons, colLookup, if_neg e, ih, List.mem_cons, this, false_or]

/-- **the concatenation does not depend on the order in which an operand holds its columns**: if both
concatenations are accepted, they have the same rows, names and name index, and every key looks up the
same column -/
theorem concat_order_free (pre post : List Db) (d : Db) (ps' : Cols) (hp : ps'.Perm d.props)
    (hn : (d.props.map Prod.fst).Nodup) (r r' : Db)
    (h : Db.concat (pre ++ d :: post) = .ok r) (h' : Db.concat (pre ++ reordered d ps' :: post) = .ok r') :
    r'.array = r.array ∧ r'.fpNames = r.fpNames ∧ r'.namesMap = r.namesMap ∧
      ∀ k, colLookup r'.props k = colLookup r.props k := by
  obtain ⟨a1, a2, a3, a4⟩ := concat_ok_fields _ r h
  obtain ⟨b1, b2, b3, b4⟩ := concat_ok_fields _ r' h'
  have names : r'.fpNames = r.fpNames := by
    rewrite [a2, b2]; simp only [List.flatMap_append, List.flatMap_cons, reordered]
  refine ⟨?_, names, ?_, fun k => ?_⟩
  · rw [a1, b1, concatRows_order_free]
  · rw [a3, b3, names]
  · rewrite [a4, b4, colLookup_result, colLookup_result, concatCol_order_free pre post d ps' hp hn k]
    simp only [mem_concatKeys_order_free pre post d ps' hp k]

/-- two one-row databases holding the columns `mw`, `logp` in opposite orders -/
def exD1 : Db := { fpType := .bit, level := 0, name := none, array := some [[(1, 1)]], bits := 8, fpNames := [some "a"],
                   namesMap := [(some "a", [0])], props := [("mw", [PVal.int 100]), ("logp", [PVal.int 1])] }
def exD2 : Db := { exD1 with fpNames := [some "b"], namesMap := [(some "b", [0])],
                             props := [("logp", [PVal.int 2]), ("mw", [PVal.int 200])] }

/-- non-vacuity: they concatenate, and the result's columns are the by-name ones -/
example : (match Db.concat [exD1, exD2] with
      | .ok r => some (colLookup r.props "mw", colLookup r.props "logp")
      | .error _ => none)
    = some (some [PVal.int 100, PVal.int 200], some [PVal.int 1, PVal.int 2]) := by
  decide +kernel

/-- and `exD2` is `exD1`'s sibling with the columns reordered: the hypotheses of `concat_order_free` are met -/
example : (reordered exD2 [("mw", [PVal.int 200]), ("logp", [PVal.int 2])]).props.Perm exD2.props ∧
    (exD2.props.map Prod.fst).Nodup := by
  refine ⟨List.Perm.swap _ _ _, by decide⟩

end E3fpVerif.Props.C05Cols
