import E3fpVerif.Model.Csr
import E3fpVerif.Lemmas.Csr
import E3fpVerif.Lemmas.MergeSD
import E3fpVerif.Props.C06
/-!
# C06 (CSR level) — the index walk of `_sparse_soergel` computes the row-level sparse Soergel

`Model/Csr.lean` mirrors the source loop on the raw `data` / `indices` / `indptr` arrays (two emptiness
shortcuts, merge loop, two tail loops, `sum_max == 0` test).  Here: every entry it produces is the
row-level value (`mergeSD`, `arrSoergelSparse`, `soergelDef`) of the two rows the arrays denote
(`Csr.row`).  Helper lemmas are in `Lemmas/Csr.lean` (namespace `E3fpVerif.CsrL`); the loop invariant
is `CsrL.loops_eq`.
-/
namespace E3fpVerif.Props.C06Csr
open E3fpVerif E3fpVerif.C06L E3fpVerif.CsrL

/-- the index-walking loop computes `mergeSD` of the two rows it denotes; no sortedness -/
theorem soergelEntry_eq_rows (X Y : Csr) (ncx ncy : Nat) (hX : X.WF ncx) (hY : Y.WF ncy)
    (ix iy : Nat) (hix : ix < X.nrows) (hiy : iy < Y.nrows) :
    X.soergelEntry Y ix iy =
      (if X.row ix = [] ∨ Y.row iy = [] then 0
       else
         let r := mergeSD (X.row ix) (Y.row iy)
         if r.2 = 0 then 0 else 1 - r.1 / r.2) :=
  soergelEntry_eq_rows_of_step X Y ix iy (indptr_step hX hix) (indptr_step hY hiy)

/-- on rows with sorted column indices the entry is `arrSoergelSparse` of the denoted rows -/
theorem soergelEntry_eq_arr (X Y : Csr) (ncx ncy : Nat) (hX : X.WF ncx) (hY : Y.WF ncy)
    (ix iy : Nat) (hix : ix < X.nrows) (hiy : iy < Y.nrows)
    (sx : SortedRow (X.row ix)) (sy : SortedRow (Y.row iy)) :
    X.soergelEntry Y ix iy = arrSoergelSparse (X.row ix) (Y.row iy) := by
  rewrite [soergelEntry_eq_rows X Y ncx ncy hX hY ix iy hix hiy]
  unfold arrSoergelSparse
  rw [sortRow_of_sorted _ sx, sortRow_of_sorted _ sy]

/-- on non-empty sorted non-negative rows the entry is the Soergel similarity by definition -/
theorem soergelEntry_eq_def (X Y : Csr) (ncx ncy : Nat) (hX : X.WF ncx) (hY : Y.WF ncy)
    (ix iy : Nat) (hix : ix < X.nrows) (hiy : iy < Y.nrows)
    (ex : X.row ix ≠ []) (ey : Y.row iy ≠ [])
    (sx : SortedRow (X.row ix)) (sy : SortedRow (Y.row iy))
    (nx : NonnegRow (X.row ix)) (ny : NonnegRow (Y.row iy)) :
    X.soergelEntry Y ix iy = soergelDef (X.row ix) (Y.row iy) := by
  rewrite [soergelEntry_eq_arr X Y ncx ncy hX hY ix iy hix hiy sx sy]
  exact C06.arrSoergelSparse_eq_def _ _ ex ey sx sy nx ny

/-- an empty denoted row scores 0 against every row — whatever the neighbouring rows hold -/
theorem soergelEntry_empty_row (X Y : Csr) (ncx ncy : Nat) (hX : X.WF ncx) (hY : Y.WF ncy)
    (ix iy : Nat) (hix : ix < X.nrows) (hiy : iy < Y.nrows)
    (h : X.row ix = [] ∨ Y.row iy = []) :
    X.soergelEntry Y ix iy = 0 := by
  rw [soergelEntry_eq_rows X Y ncx ncy hX hY ix iy hix hiy, if_pos h]

/-- the result matrix holds `soergelEntry` at every position in range -/
theorem soergel_entry (X Y : Csr) (ix iy : Nat) (hix : ix < X.nrows) (hiy : iy < Y.nrows) :
    ((X.soergel Y)[ix]?.bind (·[iy]?)) = some (X.soergelEntry Y ix iy) := by
  unfold Csr.soergel
  rewrite [List.getElem?_map, List.getElem?_range hix]
  simp only [Option.map_some, Option.bind_some]
  rewrite [List.getElem?_map, List.getElem?_range hiy]
  rfl

/-- the result matrix has the shape `X.nrows × Y.nrows` -/
theorem soergel_shape (X Y : Csr) :
    (X.soergel Y).length = X.nrows ∧ ∀ r ∈ X.soergel Y, r.length = Y.nrows := by
  unfold Csr.soergel
  refine ⟨by simp, ?_⟩
  intro r hr
  rewrite [List.mem_map] at hr
  obtain ⟨_, _, rfl⟩ := hr
  simp

/-- the whole result matrix on matrices with sorted rows: `arrSoergelSparse` on all pairs of rows -/
theorem soergel_eq_arr (X Y : Csr) (ncx ncy : Nat) (hX : X.WF ncx) (hY : Y.WF ncy)
    (sx : ∀ r ∈ X.rows, SortedRow r) (sy : ∀ r ∈ Y.rows, SortedRow r) :
    X.soergel Y = X.rows.map (fun x => Y.rows.map (arrSoergelSparse x)) := by
  unfold Csr.soergel Csr.rows
  rewrite [List.map_map]
  simp only [Function.comp_def, List.map_map]
  exact map_map_congr _ _ (fun ix iy => X.soergelEntry Y ix iy) _ (fun ix hix iy hiy =>
    soergelEntry_eq_arr X Y ncx ncy hX hY ix iy (List.mem_range.1 hix) (List.mem_range.1 hiy)
      (sx _ (List.mem_map_of_mem hix)) (sy _ (List.mem_map_of_mem hiy)))

/-! ## non-vacuity: a 2 × 3 problem, empty rows before non-empty ones

`X` (2 × 4): row 0 empty, row 1 = `{0: 2, 3: 1}`.
`Y` (3 × 4): row 0 = `{3: 4}`, row 1 empty, row 2 = `{0: 1, 2: 3/2, 3: 1}`. -/

def exX : Csr := { data := [2, 1], indices := [0, 3], indptr := [0, 0, 2] }
def exY : Csr := { data := [4, 1, 3/2, 1], indices := [3, 0, 2, 3], indptr := [0, 1, 1, 4] }

theorem ex_wf : exX.WF 4 ∧ exY.WF 4 := by decide +kernel

example : exX.WF 4 ∧ exY.WF 4 := ex_wf
example : exX.wfb 4 = true ∧ exY.wfb 4 = true := ⟨decide_eq_true ex_wf.1, decide_eq_true ex_wf.2⟩
example : exX.nrows = 2 ∧ exY.nrows = 3 := by decide
example : exX.rows = [[], [(0, 2), (3, 1)]] := by decide +kernel
example : exY.rows = [[(3, 4)], [], [(0, 1), (2, 3/2), (3, 1)]] := by decide +kernel
example : (∀ r ∈ exX.rows, SortedRow r) ∧ (∀ r ∈ exY.rows, SortedRow r) := by decide +kernel
/-- the loop itself, run on the raw arrays -/
example : exX.soergel exY = [[0, 0, 0], [1/6, 0, 4/9]] := by decide +kernel
/-- the row-level model on the denoted rows gives the same matrix -/
example : exX.rows.map (fun x => exY.rows.map (arrSoergelSparse x)) = [[0, 0, 0], [1/6, 0, 4/9]] := by
  decide +kernel
/-- the entry after an empty `Y` row and after an empty `X` row is a genuine ratio … -/
example : exX.soergelEntry exY 1 2 = 4/9 := by decide +kernel
/-- … and the entry of the empty `Y` row between two non-empty ones is 0 (theorem, not evaluation) -/
example : exX.soergelEntry exY 1 1 = 0 :=
  soergelEntry_empty_row exX exY 4 4 ex_wf.1 ex_wf.2 1 1 (by decide) (by decide)
    (Or.inr (by decide +kernel))
/-- not well-formed: `indptr` decreasing / not ending at `len(data)` -/
example : ¬ ({ data := [1], indices := [0], indptr := [0, 1, 0] } : Csr).WF 1 := by decide +kernel
/-- the hypotheses of `soergelEntry_eq_def` hold for the example -/
example : exX.soergelEntry exY 1 2 = soergelDef (exX.row 1) (exY.row 2) :=
  soergelEntry_eq_def exX exY 4 4 ex_wf.1 ex_wf.2 1 2 (by decide) (by decide)
    (by decide +kernel) (by decide +kernel) (by decide +kernel) (by decide +kernel)
    (by unfold NonnegRow; decide +kernel) (by unfold NonnegRow; decide +kernel)

end E3fpVerif.Props.C06Csr
