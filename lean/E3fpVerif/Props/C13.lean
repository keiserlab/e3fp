import E3fpVerif.Model.Conformer
import E3fpVerif.Lemmas.SortBy
/-!
# C13 — the selection contract of `filter_conformers`, for every energy list and RMSD oracle

The accept / reject loop keeps one invariant, `Greedy seen acc` (`filterLoop_greedy`); at the end of the loop
(`accepted_greedy`) each clause of the contract is a field of it, read with what the energy sort gives
(`argsortE_sorted`, `mem_argsortE`, `argsortE_head`).  Second part: the generator object `CGen` - the translated
`Gen.genNumConf` is the documented 50 / 200 / 300 rule, and over any history of molecules each one gets the targets a
fresh generator with the same options resolves (`runMols_eq_fresh`).
-/
namespace E3fpVerif.Props.C13
open E3fpVerif

variable (E : Nat → Rat) (rmsd : Nat → Nat → Rat) (first : Nat) (cutoff : Rat) (window : Option Rat)

/-- the body of `filterLoop` as a verdict on one candidate (`filterLoop_cons`) -/
def accepts (acc : List Nat) (fit : Nat) : Bool :=
  match acc with
  | [] => true
  | low :: _ => !(decide (acc.length ≥ first) || outsideWindow E window low fit || tooClose rmsd cutoff acc fit)

theorem filterLoop_cons (fit : Nat) (rest acc : List Nat) :
    filterLoop E rmsd first cutoff window (fit :: rest) acc =
      filterLoop E rmsd first cutoff window rest
        (if accepts E rmsd first cutoff window acc fit then acc ++ [fit] else acc) := by
  cases acc with
  | nil => rfl
  | cons low t =>
    rewrite [filterLoop, accepts]
    by_cases h1 : (low :: t).length ≥ first
    · rewrite [if_pos h1, decide_eq_true h1]; rfl
    · rewrite [if_neg h1, decide_eq_false h1]
      cases outsideWindow E window low fit <;> cases tooClose rmsd cutoff (low :: t) fit <;> rfl

variable {rmsd cutoff} in
theorem tooClose_iff {acc : List Nat} {fit : Nat} :
    tooClose rmsd cutoff acc fit = true ↔ ∃ a ∈ acc, rmsd a fit < cutoff := by
  simp only [tooClose, List.any_eq_true, decide_eq_true_eq]

/-- what the loop maintains between the candidates `seen` so far and the conformers `acc` held -/
structure Greedy (seen acc : List Nat) : Prop where
  sublist : acc.Sublist seen
  head : acc.head? = seen.head?
  apart : acc.Pairwise (fun a b => ¬ rmsd a b < cutoff)
  count : acc.length ≤ max first 1
  inWindow : ∀ low, acc.head? = some low → ∀ i ∈ acc, i = low ∨ outsideWindow E window low i = false
  maximal : ∀ i ∈ seen, i ∉ acc → first ≤ acc.length ∨
    (∃ low, acc.head? = some low ∧ outsideWindow E window low i = true) ∨ ∃ a ∈ acc, rmsd a i < cutoff

theorem Greedy.nil : Greedy E rmsd first cutoff window [] [] :=
  ⟨.slnil, rfl, .nil, Nat.zero_le _, fun _ h => (nomatch h), fun _ hi => (List.not_mem_nil hi).elim⟩

section
variable {E rmsd first cutoff window}

theorem Greedy.head_snoc {seen t : List Nat} {low : Nat} (g : Greedy E rmsd first cutoff window seen (low :: t))
    (fit : Nat) : (low :: t).head? = (seen ++ [fit]).head? := by
  cases seen with
  | nil => cases g.head
  | cons _ _ => exact g.head

/-- a rejected candidate has its reason, and the reasons of the earlier ones stand -/
theorem Greedy.skip {seen acc : List Nat} {fit : Nat} (g : Greedy E rmsd first cutoff window seen acc)
    (h : accepts E rmsd first cutoff window acc fit = false) :
    Greedy E rmsd first cutoff window (seen ++ [fit]) acc := by
  cases acc with
  | nil => cases h
  | cons low t =>
    refine ⟨g.sublist.trans (List.sublist_append_left ..), g.head_snoc fit, g.apart, g.count, g.inWindow, ?_⟩
    intro i hi hni
    rcases List.mem_append.mp hi with hi | hi
    · exact g.maximal i hi hni
    · cases List.mem_singleton.mp hi
      simp only [accepts, Bool.not_eq_false', Bool.or_eq_true, decide_eq_true_eq] at h
      rcases h with (h | h) | h
      · exact .inl h
      · exact .inr (.inl ⟨low, rfl, h⟩)
      · exact .inr (.inr (tooClose_iff.mp h))

/-- an accepted candidate passed the three tests against what was held; held ones stay held, and a
reason for rejection against a shorter list holds against a longer one -/
theorem Greedy.take {seen acc : List Nat} {fit : Nat} (g : Greedy E rmsd first cutoff window seen acc)
    (h : accepts E rmsd first cutoff window acc fit = true) :
    Greedy E rmsd first cutoff window (seen ++ [fit]) (acc ++ [fit]) := by
  cases acc with
  | nil =>
    cases seen with
    | cons _ _ => cases g.head
    | nil =>
      refine ⟨.refl _, rfl, List.pairwise_singleton _ _, Nat.le_max_right _ _, ?_, ?_⟩
      · intro low hl i hi
        cases hl
        exact .inl (List.mem_singleton.mp hi)
      · intro i hi hni
        exact absurd hi hni
  | cons low t =>
    simp only [accepts, Bool.not_eq_true', Bool.or_eq_false_iff, decide_eq_false_iff_not] at h
    obtain ⟨⟨hlen, hwin⟩, hclose⟩ := h
    refine ⟨g.sublist.append (.refl _), g.head_snoc fit, ?_, ?_, ?_, ?_⟩
    · refine List.pairwise_append.mpr ⟨g.apart, List.pairwise_singleton _ _, ?_⟩
      intro a ha b hb
      cases List.mem_singleton.mp hb
      exact fun hr => Bool.eq_false_iff.mp hclose (tooClose_iff.mpr ⟨a, ha, hr⟩)
    · rewrite [List.length_append, List.length_singleton]
      exact Nat.le_trans (Nat.not_le.mp hlen) (Nat.le_max_left _ _)
    · intro l hl i hi
      cases hl
      rcases List.mem_append.mp hi with hi | hi
      · exact g.inWindow low rfl i hi
      · cases List.mem_singleton.mp hi
        exact .inr hwin
    · intro i hi hni
      rewrite [List.mem_append, not_or] at hni
      rcases List.mem_append.mp hi with hi | hi
      · rcases g.maximal i hi hni.1 with r | r | r
        · exact .inl (Nat.le_trans r (List.sublist_append_left _ _).length_le)
        · exact .inr (.inl r)
        · exact .inr (.inr (r.imp fun a h => ⟨List.mem_append_left _ h.1, h.2⟩))
      · exact absurd hi hni.2

theorem filterLoop_greedy (pool : List Nat) {seen acc : List Nat} (g : Greedy E rmsd first cutoff window seen acc) :
    Greedy E rmsd first cutoff window (seen ++ pool) (filterLoop E rmsd first cutoff window pool acc) := by
  induction pool generalizing seen acc with
  | nil => rwa [List.append_nil]
  | cons fit rest ih =>
    rewrite [filterLoop_cons, List.append_cons]
    cases h : accepts E rmsd first cutoff window acc fit
    · exact ih (g.skip h)
    · exact ih (g.take h)

end

theorem argsortE_eq_sortByLt (n : Nat) :
    argsortE E n = sortByLt (fun a b => decide (E a < E b)) (List.range n) := by
  unfold argsortE sortByLt
  congr 1
  funext i l
  induction l with
  | nil => rfl
  | cons j js ih => simp only [insertByEnergy, insertBy, ih, decide_eq_true_eq]

theorem argsortE_perm (n : Nat) : (argsortE E n).Perm (List.range n) := by
  rewrite [argsortE_eq_sortByLt]; exact sortByLt_perm _ _

theorem argsortE_sorted (n : Nat) : (argsortE E n).Pairwise (fun a b => ¬ E b < E a) := by
  rewrite [argsortE_eq_sortByLt]
  exact (sortByLt_sorted (fun a b => decide (E a < E b)) (fun _ => decide_eq_false Rat.lt_irrefl)
    (fun _ _ _ hab hbc => decide_eq_true (Std.lt_trans (of_decide_eq_true hab) (of_decide_eq_true hbc))) _).imp
    of_decide_eq_false

theorem argsortE_nodup (n : Nat) : (argsortE E n).Nodup :=
  (argsortE_perm E n).nodup_iff.mpr List.nodup_range

theorem mem_argsortE (n i : Nat) : i ∈ argsortE E n ↔ i < n := by
  rw [(argsortE_perm E n).mem_iff, List.mem_range]

theorem argsortE_head (n : Nat) (hn : 0 < n) :
    ∃ low, (argsortE E n).head? = some low ∧ low < n ∧ ∀ i, i < n → E low ≤ E i := by
  have hs := argsortE_sorted E n
  have hm := mem_argsortE E n
  generalize argsortE E n = l at hs hm
  cases l with
  | nil => exact absurd ((hm 0).mpr hn) List.not_mem_nil
  | cons a t =>
    refine ⟨a, rfl, (hm a).mp List.mem_cons_self, fun i hi => ?_⟩
    rcases List.mem_cons.mp ((hm i).mpr hi) with rfl | h
    · exact Rat.le_refl
    · exact Rat.not_lt.mp ((List.pairwise_cons.mp hs).1 i h)

theorem accepted_greedy (n : Nat) :
    Greedy E rmsd first cutoff window (argsortE E n) (filterConformers n E rmsd first cutoff window).accepted :=
  List.nil_append (argsortE E n) ▸ filterLoop_greedy (argsortE E n) (Greedy.nil ..)

/-- returned conformers are pairwise at least the RMSD cutoff apart -/
theorem pairwise_apart (n : Nat) :
    (filterConformers n E rmsd first cutoff window).accepted.Pairwise (fun a b => ¬ rmsd a b < cutoff) :=
  (accepted_greedy E rmsd first cutoff window n).apart

/-- no more conformers than requested (`first`, at least the lowest-energy one) -/
theorem count_bound (n : Nat) : (filterConformers n E rmsd first cutoff window).accepted.length ≤ max first 1 :=
  (accepted_greedy E rmsd first cutoff window n).count

/-- the reported energies are those of the returned conformers, in the returned order -/
theorem reported_energies (n : Nat) :
    (filterConformers n E rmsd first cutoff window).energies = (filterConformers n E rmsd first cutoff window).accepted.map E := rfl

/-- the reported matrix entry (a, b) is the RMSD between the a-th and b-th returned conformers -/
theorem reported_rmsd (n : Nat) (a b : Nat) (x y : Nat)
    (hx : (filterConformers n E rmsd first cutoff window).accepted[a]? = some x)
    (hy : (filterConformers n E rmsd first cutoff window).accepted[b]? = some y) :
    ((filterConformers n E rmsd first cutoff window).rmsds[a]?.bind (·[b]?)) = some (if x = y then 0 else rmsd x y) := by
  unfold filterConformers at *
  rw [List.getElem?_map, hx, Option.map_some, Option.bind_some, List.getElem?_map, hy, Option.map_some]

theorem accepted_sublist (n : Nat) :
    (filterConformers n E rmsd first cutoff window).accepted.Sublist (argsortE E n) :=
  (accepted_greedy E rmsd first cutoff window n).sublist

/-- returned conformers are in non-decreasing energy order -/
theorem sorted_by_energy (n : Nat) :
    ((filterConformers n E rmsd first cutoff window).accepted.map E).Pairwise (· ≤ ·) := by
  rewrite [List.pairwise_map]
  exact ((argsortE_sorted E n).sublist (accepted_sublist E rmsd first cutoff window n)).imp Rat.not_lt.mp

/-- no conformer is returned twice -/
theorem accepted_nodup (n : Nat) : (filterConformers n E rmsd first cutoff window).accepted.Nodup :=
  (argsortE_nodup E n).sublist (accepted_sublist E rmsd first cutoff window n)

/-- returned indices are pool indices -/
theorem accepted_lt_n (n : Nat) : ∀ i ∈ (filterConformers n E rmsd first cutoff window).accepted, i < n := by
  intro i hi
  exact (mem_argsortE E n i).mp ((accepted_sublist E rmsd first cutoff window n).subset hi)

/-- for a non-empty pool a conformer is returned, the first one returned is in the pool, and its
energy is minimal over the whole pool -/
theorem lowest_first (n : Nat) (hn : 0 < n) :
    ∃ low, (filterConformers n E rmsd first cutoff window).accepted.head? = some low ∧ low < n ∧
      ∀ i, i < n → E low ≤ E i := by
  rewrite [(accepted_greedy E rmsd first cutoff window n).head]
  exact argsortE_head E n hn

example : (filterConformers 3 (fun i => if i = 0 then 5 else if i = 1 then 2 else 3)
    (fun _ _ => 1) 2 (1/2) none).accepted = [1, 2] := by decide +kernel

/-- a pool conformer that is not returned was rejected for one of the three documented reasons:
`first` conformers are already returned, or it is outside the energy window of the lowest-energy
conformer, or it is within the RMSD cutoff of a returned conformer -/
theorem rejected_reason (n : Nat) (i : Nat) (hi : i < n)
    (hrej : i ∉ (filterConformers n E rmsd first cutoff window).accepted) :
    first ≤ (filterConformers n E rmsd first cutoff window).accepted.length ∨
    (∃ low, (filterConformers n E rmsd first cutoff window).accepted.head? = some low ∧
      outsideWindow E window low i = true) ∨
    ∃ a ∈ (filterConformers n E rmsd first cutoff window).accepted, rmsd a i < cutoff :=
  (accepted_greedy E rmsd first cutoff window n).maximal i ((mem_argsortE E n i).mpr hi) hrej

/-- with `first` at least the pool size, no window and no pair under the cutoff, the whole pool is
returned, in energy order -/
theorem all_returned (n : Nat) (hfirst : n ≤ first) (hr : ∀ a b, ¬ rmsd a b < cutoff) :
    (filterConformers n E rmsd first cutoff none).accepted = argsortE E n := by
  have g := accepted_greedy E rmsd first cutoff none n
  by_cases h : ∀ i ∈ argsortE E n, i ∈ (filterConformers n E rmsd first cutoff none).accepted
  · exact g.sublist.eq_of_length ((List.perm_ext_iff_of_nodup (accepted_nodup E rmsd first cutoff none n)
      (argsortE_nodup E n)).mpr fun i => ⟨(g.sublist.subset ·), h i⟩).length_eq
  · -- a pool index that is not returned can only have been rejected on the count: `n ≤ first` are returned
    obtain ⟨i, hi⟩ := Classical.not_forall.mp h
    obtain ⟨hi, hni⟩ := Classical.not_imp.mp hi
    refine g.sublist.eq_of_length_le ?_
    rcases g.maximal i hi hni with r | ⟨_, _, r⟩ | ⟨a, _, ha⟩
    · rewrite [(argsortE_perm E n).length_eq, List.length_range]
      exact Nat.le_trans hfirst r
    · cases r
    · exact absurd ha (hr a i)

example : (filterConformers 3 (fun i => if i = 0 then 5 else if i = 1 then 2 else 3)
    (fun _ _ => 1) 3 (1/2) none).accepted = [1, 2, 0] := by decide +kernel

/-- with a non-negative energy window, every returned conformer is within the window of the first
(lowest-energy) returned conformer -/
theorem within_window (n : Nat) (w : Rat) (hw : 0 ≤ w) (low : Nat)
    (hwin : window = some w)
    (hlow : (filterConformers n E rmsd first cutoff window).accepted.head? = some low) :
    ∀ i ∈ (filterConformers n E rmsd first cutoff window).accepted, E i ≤ E low + w := by
  subst hwin
  intro i hi
  rcases (accepted_greedy E rmsd first cutoff (some w) n).inWindow low hlow i hi with rfl | h
  · simpa only [Rat.add_zero] using (Rat.add_le_add_left (c := E i)).mpr hw
  · simpa [outsideWindow] using h

/-- non-vacuity: a window of 1/2 rejects the conformer 2 above the lowest -/
example : (filterConformers 3 (fun i => if i = 0 then 5 else if i = 1 then 2 else 5/2)
    (fun _ _ => 1) 3 (1/2) (some (1/2))).accepted = [1, 2] := by decide +kernel

/-- the sign condition is necessary: the model always returns the lowest-energy conformer, which a
negative window does not contain (the generator maps negative `max_energy_diff` to no window) -/
example : ¬ (∀ i ∈ (filterConformers 1 (fun _ => 0) (fun _ _ => 1) 1 0 (some (-1))).accepted,
    (fun _ => (0 : Rat)) i ≤ (fun _ => (0 : Rat)) 0 + (-1)) := by decide +kernel

/-! ## the generator object: targets per molecule -/

/-- the function translated from the source (`Gen.genNumConf`, regenerated on every check) is the documented one -/
theorem genNumConf_spec (r : Nat) : Gen.genNumConf r = autoNumConf r := by
  unfold Gen.genNumConf autoNumConf
  grind

theorem genNumConf_values (r : Nat) : Gen.genNumConf r = 50 ∨ Gen.genNumConf r = 200 ∨ Gen.genNumConf r = 300 := by
  rewrite [genNumConf_spec]; unfold autoNumConf
  grind

theorem genNumConf_pos (r : Nat) : 0 < Gen.genNumConf r := by
  rcases genNumConf_values r with h | h | h <;> rewrite [h] <;> decide

theorem genNumConf_mono {r s : Nat} (h : r ≤ s) : Gen.genNumConf r ≤ Gen.genNumConf s := by
  rewrite [genNumConf_spec, genNumConf_spec]; unfold autoNumConf
  grind

/-- a call never changes the generator's options -/
theorem generate_options (g : CGen) (rot : Nat) :
    (g.generate rot).1.numConf = g.numConf ∧ (g.generate rot).1.first = g.first ∧ (g.generate rot).1.pool = g.pool :=
  ⟨rfl, rfl, rfl⟩

/-- what a call uses depends on the options and the molecule, not on the state left by earlier molecules -/
theorem generate_state_free (g : CGen) (mx fc : Int) (rot : Nat) :
    ({ g with maxConformers := mx, firstConformers := fc } : CGen).generate rot = g.generate rot := rfl

/-- a generator in any reachable state answers a molecule exactly as a fresh generator with the same options does -/
theorem generate_eq_fresh (g : CGen) (rot : Nat) :
    (g.generate rot).2 = ((CGen.new g.numConf g.first g.pool).generate rot).2 := rfl

/-- over a whole history: the k-th molecule gets the answer of a fresh generator, whatever came before -/
theorem runMols_eq_fresh (g : CGen) (rots : List Nat) :
    (g.runMols rots).2 = rots.map (fun r => ((CGen.new g.numConf g.first g.pool).generate r).2) := by
  induction rots generalizing g with
  | nil => rfl
  | cons r rs ih =>
    have ho := generate_options g r
    simp only [CGen.runMols, List.map_cons]
    rw [ih (g.generate r).1, ho.1, ho.2.1, ho.2.2, ← generate_eq_fresh g r]

/-- the reported target and the `first` the filter uses are the resolved ones -/
theorem generate_targets (g : CGen) (rot : Nat) :
    (g.generate rot).2.2.1 = (if g.numConf = -1 then ((Gen.genNumConf rot : Nat) : Int) else g.numConf) ∧
    (g.generate rot).2.2.2 = (if g.first = -1 then (g.generate rot).2.2.1 else g.first) ∧
    (g.generate rot).2.1 = (g.generate rot).2.2.1 * g.pool :=
  ⟨rfl, rfl, rfl⟩

/-- with automatic targets, molecules of different rotatable-bond classes get their own targets from one object
(the history that exposed the defect repaired by 8c7f593) -/
example : ((CGen.new (-1) (-1) 1).runMols [11, 2]).2 = [(200, 200, 200), (50, 50, 50)] := by decide

end E3fpVerif.Props.C13
