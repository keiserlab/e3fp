import E3fpVerif.Lemmas.Rigid
import E3fpVerif.Lemmas.Fprinter
/-!
# C01: the fingerprint of a conformer is invariant under rigid motion

`run_congr`: `runFp` depends on a `Geo` only through its two fields.  The remaining theorems are
about the real-number instance of `Scalar` (`Lemmas/RealScalar.lean`): moving every atom by the same
rotation and translation leaves both fields of `Geo.ofCoords` unchanged, hence the fingerprint at
every level; with stereo off the same holds for every isometry, reflections included.  Last section: `pickZ`
returns no z axis for a neighbour on the y axis (`pickZ_on_axis_smul`).
-/
namespace E3fpVerif.Props.C01
open E3fpVerif E3fpVerif.Rigid

/-- the fingerprint is a function of the geometric decisions only: two conformers on which every
shell-membership test and every stereo code agree have the same fingerprint at every level -/
theorem run_congr (o : Opts) (m : MolG) (g₁ g₂ : Geo) (hw : g₁.within = g₂.within) (hs : g₁.stereo = g₂.stereo) :
    runFp o m g₁ = runFp o m g₂ := by
  rw [Geo.ext hw hs]

/-! ## the geometric decisions under an isometry -/

/-- shell membership is invariant under every isometry (any determinant) -/
theorem within_isometry_invariant {R : Mat3} (hR : Orth R) (t : V3 ℝ) (mult : ℝ) (X : Nat → V3 ℝ) :
    (Geo.ofCoords mult (fun a => move R t (X a))).within = (Geo.ofCoords mult X).within := by
  funext k a b
  simp only [Geo.ofCoords, dist_move hR]

/-- the stereo codes are invariant under every proper rigid motion -/
theorem stereo_rigid_invariant {R : Mat3} (hR : Orth R) (hdet : det R = 1) (t : V3 ℝ) (mult : ℝ)
    (X : Nat → V3 ℝ) :
    (Geo.ofCoords mult (fun a => move R t (X a))).stereo = (Geo.ofCoords mult X).stereo := by
  funext c tuples
  simp only [Geo.ofCoords, sub_move]
  have h : tuples.map (fun t => (t.1, t.2.1, rot R (V3.sub (X t.2.2) (X c))))
      = (tuples.map (fun t => (t.1, t.2.1, V3.sub (X t.2.2) (X c)))).map (nbrMap R) := by
    rewrite [List.map_map]; rfl
  rw [h, stereoIndicators_rot hR hdet]

/-- both geometric decisions of a conformer are unchanged by a rotation followed by a translation -/
theorem geo_rigid_invariant {R : Mat3} (hR : Orth R) (hdet : det R = 1) (t : V3 ℝ) (mult : ℝ)
    (X : Nat → V3 ℝ) :
    Geo.ofCoords mult (fun a => move R t (X a)) = Geo.ofCoords mult X :=
  Geo.ext (within_isometry_invariant hR t mult X) (stereo_rigid_invariant hR hdet t mult X)

/-- C01: the fingerprinter's whole run (every level, every shell, every identifier) is the same for a
conformer and for its image under a rotation and a translation -/
theorem rigid_invariant {R : Mat3} (hR : Orth R) (hdet : det R = 1) (t : V3 ℝ) (mult : ℝ)
    (X : Nat → V3 ℝ) (o : Opts) (m : MolG) :
    runFp o m (Geo.ofCoords mult (fun a => move R t (X a))) = runFp o m (Geo.ofCoords mult X) := by
  rw [geo_rigid_invariant hR hdet t mult X]

/-! ## stereo off: only `within` matters -/

/-- with stereo off the run never consults `g.stereo` -/
theorem runFp_stereo_off {o : Opts} (hs : o.stereo = false) (m : MolG) (g₁ g₂ : Geo)
    (hw : g₁.within = g₂.within) : runFp o m g₁ = runFp o m g₂ :=
  runFp_congr (fun _ _ _ _ _ => by rw [hw]) (fun _ _ _ _ _ => by simp only [atomTuples, hs, Bool.false_eq_true, if_false])

/-- C01 with stereo off: invariance under every isometry — rotations, translations and reflections -/
theorem isometry_invariant_nostereo {R : Mat3} (hR : Orth R) (t : V3 ℝ) (mult : ℝ) (X : Nat → V3 ℝ)
    {o : Opts} (hs : o.stereo = false) (m : MolG) :
    runFp o m (Geo.ofCoords mult (fun a => move R t (X a))) = runFp o m (Geo.ofCoords mult X) :=
  runFp_stereo_off hs m _ _ (within_isometry_invariant hR t mult X)

/-! ## non-vacuity: the hypotheses are met by non-trivial motions -/

/-- the 3-4-5 rotation about the z axis -/
noncomputable def rot345 : Mat3 := ⟨3/5, -4/5, 0, 4/5, 3/5, 0, 0, 0, 1⟩

/-- the mirror `z ↦ -z` -/
noncomputable def mirrorZ : Mat3 := ⟨1, 0, 0, 0, 1, 0, 0, 0, -1⟩

theorem rot345_orth : Orth rot345 := by
  unfold rot345
  constructor <;> norm_num

theorem rot345_det : det rot345 = 1 := by
  unfold det rot345; norm_num

example : Orth rot345 ∧ det rot345 = 1 := ⟨rot345_orth, rot345_det⟩

example : Orth mirrorZ ∧ det mirrorZ = -1 := by
  unfold mirrorZ det
  refine ⟨⟨?_, ?_, ?_, ?_, ?_, ?_⟩, ?_⟩ <;> norm_num

/-- the rotation is not the identity: it moves the x unit vector -/
example : rot rot345 ⟨1, 0, 0⟩ = ⟨3/5, 4/5, 0⟩ := by
  simp only [rot, rot345, mul_one, mul_zero, add_zero]

/-- C01 instantiated at the 3-4-5 rotation and an arbitrary translation -/
example (t : V3 ℝ) (mult : ℝ) (X : Nat → V3 ℝ) (o : Opts) (m : MolG) :
    runFp o m (Geo.ofCoords mult (fun a => move rot345 t (X a))) = runFp o m (Geo.ofCoords mult X) :=
  rigid_invariant rot345_orth rot345_det t mult X o m

/-! ## the z axis is never taken from an atom on the y axis

`pick_z` projects the selected neighbour onto the plane orthogonal to `y`.  For a neighbour that is
(anti)parallel to `y` (para-substituted ring atoms, linear groups) the projection is the zero vector - in
floating point: round-off noise, whose direction is not invariant under rigid motion.  `pickZ` is the raw
selection `pickZRaw` followed by a guard that refuses a projection shorter than `EPS`. -/

open RealScalar

/-- a z axis that is returned is the raw selection and is at least `EPS` long -/
theorem pickZ_some_norm (cand : List (Nat × Int × V3 ℝ × ℝ)) (y z : V3 ℝ) (h : pickZ cand y = some z) :
    pickZRaw cand y = some z ∧ Scalar.eps ≤ V3.norm z := by
  obtain ⟨hr, hg⟩ := (pickZ_eq_some_iff cand y z).1 h
  rewrite [lt_def] at hg
  exact ⟨hr, not_lt.1 hg⟩

/-- a multiple of `y` has no component orthogonal to `y` (for `y` not shorter than `√EPS`, which
`as_unit` normalises; the y axis of a shell is a centred atom coordinate or a mean of at least
`Y_AXIS_PRECISION` length) -/
theorem projectToPlane_smul_self {y : V3 ℝ} (hy : (Scalar.eps : ℝ) ≤ V3.dot y y) (c : ℝ) :
    V3.projectToPlane (V3.smul c y) y = V3.vzero := by
  have hpos : 0 < V3.dot y y := lt_of_lt_of_le eps_pos hy
  -- its squared length is `c²|y|² - (c|y|²)² / |y|² = 0`
  have h0 : V3.isZero (V3.projectToPlane (V3.smul c y) y) = true := by
    rw [isZero_iff_dot_self, dot_projectToPlane hy, dot_smul_left, dot_comm y, dot_smul_left,
      sq, mul_div_assoc, mul_div_cancel_right₀ _ hpos.ne', mul_comm, sub_self]
  obtain ⟨hx, hy', hz⟩ := (isZero_iff _).1 h0
  exact v3_ext (hx.trans zero_def.symm) (hy'.trans zero_def.symm) (hz.trans zero_def.symm)

/-- the raw selection returns the zero vector as the "direction" of the z axis for a single candidate that
is a multiple of `y` (parallel, `c > 0`, or antiparallel, `c < 0`) … -/
theorem pickZRaw_on_axis_smul (k : Nat) (i : Int) (c a : ℝ) {y : V3 ℝ} (hy : (Scalar.eps : ℝ) ≤ V3.dot y y) :
    pickZRaw [(k, i, V3.smul c y, a)] y = some V3.vzero := by
  rewrite [pickZRaw_singleton]
  show some (V3.projectToPlane (V3.smul c y) y) = _
  rw [projectToPlane_smul_self hy]

/-- … and `pickZ` refuses it: there is no z axis -/
theorem pickZ_on_axis_smul (k : Nat) (i : Int) (c a : ℝ) {y : V3 ℝ} (hy : (Scalar.eps : ℝ) ≤ V3.dot y y) :
    pickZ [(k, i, V3.smul c y, a)] y = none := by
  rewrite [pickZ_eq_raw, pickZRaw_on_axis_smul k i c a hy]
  have h0 : V3.norm (V3.vzero : V3 ℝ) = 0 := by simp [V3.norm, V3.vzero, V3.dot]
  exact if_pos ((lt_def _ _).2 (h0 ▸ eps_pos))

/-- para-like arrangement: y axis `(1,0,0)`, the only candidate sits opposite at `(-2,0,0)` -/
theorem pickZ_para_example :
    pickZ [((0 : Nat), (0 : Int), (⟨-2, 0, 0⟩ : V3 ℝ), (0 : ℝ))] ⟨1, 0, 0⟩ = none := by
  have hv : (⟨-2, 0, 0⟩ : V3 ℝ) = V3.smul (-2) ⟨1, 0, 0⟩ := by
    simp only [V3.smul, mul_def, one_mul, zero_mul]
  have hy : (Scalar.eps : ℝ) ≤ V3.dot (⟨1, 0, 0⟩ : V3 ℝ) ⟨1, 0, 0⟩ :=
    eps_le_one.trans (by simp [V3.dot])
  rewrite [hv]
  exact pickZ_on_axis_smul 0 0 (-2) 0 hy

end E3fpVerif.Props.C01
