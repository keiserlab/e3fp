import E3fpVerif.Model.Batch
import E3fpVerif.Model.BatchDb
import E3fpVerif.Lemmas.DbHistOps
/-!
# C15 ∘ C05 — the database a batch run builds does not depend on the completion order

`dbOfBatch` (`Model/BatchDb.lean`) folds `add_fingerprints` over the per-input results of a batch.  The loop is
moved to the specification (`dbOfBatchFrom_refines`), where a batch of accepted additions is one addition of the
flattened batch (`sOfBatchFrom_accepted`).  So the database is, as a list of rows, the flattened results in order
with the columns of the very first fingerprint (`dbOfBatch_spec`), and two completion orders give row lists that
are permutations of each other, provided all fingerprints carry the same property keys: otherwise the first
fingerprint to arrive dictates the columns (`keys_hypothesis_needed`).
-/
namespace E3fpVerif.Props.C15Db
open E3fpVerif

/-! ## the collector loop on the specification -/

def sOfBatchFrom (s : SDb) : List (List FpIn) → SDb × List Ans
  | [] => (s, [])
  | fps :: rest =>
    if fps.isEmpty then sOfBatchFrom s rest
    else
      let r := s.add fps
      let q := sOfBatchFrom r.1 rest
      (q.1, r.2 :: q.2)

theorem dbOfBatchFrom_refines (results : List (List FpIn)) : ∀ (db : Db), db.Inv →
    (dbOfBatchFrom db results).1.Inv ∧
      ((dbOfBatchFrom db results).1.spec, (dbOfBatchFrom db results).2) = sOfBatchFrom db.spec results := by
  induction results with
  | nil => intro db h; exact ⟨h, rfl⟩
  | cons fps rest ih =>
    intro db h
    unfold dbOfBatchFrom sOfBatchFrom
    by_cases he : fps.isEmpty = true
    · simp only [he, if_true]; exact ih db h
    · simp only [he, if_false, Bool.false_eq_true]
      obtain ⟨i1, i2⟩ := ih (db.add fps).1 (C05.inv_add_always db fps h)
      rewrite [← add_refines db fps h, Prod.map_fst, ← i2]
      exact ⟨i1, rfl⟩

theorem sOfBatchFrom_accepted (results : List (List FpIn)) : ∀ s : SDb,
    ((∀ a ∈ (sOfBatchFrom s results).2, a = none) ↔ results.flatten = [] ∨ s.Accepts results.flatten) ∧
    ((∀ a ∈ (sOfBatchFrom s results).2, a = none) →
      (sOfBatchFrom s results).1 = if results.flatten = [] then s else s.added results.flatten) := by
  induction results with
  | nil => intro s; exact ⟨⟨fun _ => .inl rfl, fun _ _ h => nomatch h⟩, fun _ => rfl⟩
  | cons fps rest ih =>
    intro s
    by_cases he : fps = []
    · subst he
      exact ih s
    have he' : ¬ fps.isEmpty = true := fun h => he (List.isEmpty_iff.1 h)
    have hne : fps ++ rest.flatten ≠ [] := List.append_ne_nil_of_left_ne_nil he _
    rewrite [sOfBatchFrom, if_neg he', List.flatten_cons]
    simp only [List.mem_cons, forall_eq_or_imp, hne, false_or, if_false]
    by_cases ha : s.Accepts fps
    · rewrite [(s.add_eq_ok _ fps).2 ⟨ha, rfl⟩, s.accepts_append fps _ he]
      obtain ⟨i1, i2⟩ := ih (s.added fps)
      simp only [eq_self, true_and]
      refine ⟨i1.trans (and_iff_right ha).symm, fun h => (i2 h).trans ?_⟩
      by_cases hr : rest.flatten = []
      · rw [if_pos hr, hr, List.append_nil]
      · rw [if_neg hr, s.added_append fps _ he]
    · have h1 : (s.add fps).2 ≠ none := fun h => ha ((s.add_none_iff fps).1 h)
      have h2 : ¬ s.Accepts (fps ++ rest.flatten) := fun h => ha ((s.accepts_append fps _ he).1 h).1
      simp only [h1, h2, false_and, false_implies, and_self]

/-- the row list a batch leaves in a fresh database: nothing, or the flattened results with the columns
and the length of the first fingerprint -/
def batchSpec (k : Kind) (level : Int) (name : Option String) (all : List FpIn) : SDb :=
  match all with
  | [] => SDb.new k level name
  | f0 :: _ =>
    { kind := k, level := level, name := name, bits := some f0.fp.bits,
      keys := dedupKeys (f0.props.map Prod.fst),
      rows := all.map (addRow k (dedupKeys (f0.props.map Prod.fst))) }

/-! ## the database of a batch -/

/-- every addition of the batch was accepted -/
def Accepted (r : Db × List Ans) : Prop := ∀ a ∈ r.2, a = none

theorem dbOfBatch_accepted (k : Kind) (level : Int) (name : Option String) (results : List (List FpIn)) :
    (dbOfBatch k level name results).1.Inv ∧
    (Accepted (dbOfBatch k level name results) ↔
      results.flatten = [] ∨ (SDb.new k level name).Accepts results.flatten) ∧
    (Accepted (dbOfBatch k level name results) →
      (dbOfBatch k level name results).1.spec = batchSpec k level name results.flatten) := by
  obtain ⟨hi, hr⟩ := dbOfBatchFrom_refines results (Db.new k level name) (C05.inv_new k level name)
  obtain ⟨a1, a2⟩ := sOfBatchFrom_accepted results (Db.new k level name).spec
  rewrite [← hr] at a1 a2
  exact ⟨hi, a1, fun h => (a2 h).trans (by cases results.flatten <;> rfl)⟩

/-- **the database of an accepted batch is, as a list of rows, the flattened results in completion
order**, each fingerprint stored as `fpRow` with its name and the values of the columns fixed by the
first fingerprint; the invariant holds, and all fingerprints have the database's level and length -/
theorem dbOfBatch_spec (k : Kind) (level : Int) (name : Option String) (results : List (List FpIn))
    (hacc : Accepted (dbOfBatch k level name results)) :
    (dbOfBatch k level name results).1.Inv ∧
      (dbOfBatch k level name results).1.spec = batchSpec k level name results.flatten ∧
      ∀ f ∈ results.flatten, f.fp.level = level ∧ (∀ f0 ∈ results.flatten.head?, f.fp.bits = f0.fp.bits) := by
  obtain ⟨hi, ha, hs⟩ := dbOfBatch_accepted k level name results
  refine ⟨hi, hs hacc, fun f hf => ?_⟩
  obtain ⟨_, hl, hb, _⟩ := (ha.1 hacc).resolve_left (List.ne_nil_of_mem hf)
  refine ⟨hl f hf, fun f0 h0 => ?_⟩
  rewrite [hb f hf]
  simp [SDb.expectedBits, SDb.new, Option.mem_def.1 h0]

theorem batchSpec_rows_cells (k : Kind) (level : Int) (name : Option String) (all : List FpIn) :
    (batchSpec k level name all).rows.map (fun r => (r.cells, r.name)) = all.map (fun f => (fpRow k f.fp, f.name)) := by
  cases all with
  | nil => rfl
  | cons f0 r => simp only [batchSpec, List.map_cons, addRow, List.map_map, Function.comp_def]

theorem batchSpec_uniform (k : Kind) (level : Int) (name : Option String) (all : List FpIn) (K : List String) (b : Nat)
    (hK : ∀ f ∈ all, dedupKeys (f.props.map Prod.fst) = K) (hb : ∀ f ∈ all, f.fp.bits = b) (hne : all ≠ []) :
    batchSpec k level name all =
      { kind := k, level := level, name := name, bits := some b, keys := K, rows := all.map (addRow k K) } := by
  cases all with
  | nil => exact absurd rfl hne
  | cons f0 r => simp only [batchSpec, hK f0 List.mem_cons_self, hb f0 List.mem_cons_self]

/-- **another completion order gives the same database up to the order of the rows**: same kind, level,
name, length and columns, and row lists that are permutations of each other — provided both runs are
accepted and all fingerprints carry the same (de-duplicated) property keys `K` -/
theorem dbOfBatch_perm (k : Kind) (level : Int) (name : Option String) (results results' : List (List FpIn))
    (K : List String) (hp : results'.Perm results)
    (hacc : Accepted (dbOfBatch k level name results)) (hacc' : Accepted (dbOfBatch k level name results'))
    (hK : ∀ f ∈ results.flatten, dedupKeys (f.props.map Prod.fst) = K) :
    let d := (dbOfBatch k level name results).1
    let d' := (dbOfBatch k level name results').1
    d'.absRows.Perm d.absRows ∧ d'.spec.kind = d.spec.kind ∧ d'.spec.level = d.spec.level ∧
      d'.spec.name = d.spec.name ∧ d'.spec.bits = d.spec.bits ∧ d'.spec.keys = d.spec.keys := by
  intro d d'
  obtain ⟨_, s1, b1⟩ := dbOfBatch_spec k level name results hacc
  obtain ⟨_, s2, _⟩ := dbOfBatch_spec k level name results' hacc'
  have hperm := hp.flatten
  show (dbOfBatch k level name results').1.spec.rows.Perm (dbOfBatch k level name results).1.spec.rows ∧ _
  rewrite [s1, s2]
  by_cases hne : results.flatten = []
  · rewrite [hne] at hperm ⊢
    rewrite [hperm.eq_nil]
    exact ⟨.refl _, rfl, rfl, rfl, rfl, rfl⟩
  · obtain ⟨f0, r, hall⟩ := List.exists_cons_of_ne_nil hne
    have hb : ∀ f ∈ results.flatten, f.fp.bits = f0.fp.bits := fun f hf => (b1 f hf).2 f0 (by rewrite [hall]; rfl)
    rewrite [batchSpec_uniform k level name _ K f0.fp.bits hK hb hne,
           batchSpec_uniform k level name _ K f0.fp.bits (fun f hf => hK f (hperm.mem_iff.1 hf))
             (fun f hf => hb f (hperm.mem_iff.1 hf)) fun e => hne (e ▸ hperm).symm.eq_nil]
    exact ⟨hperm.map _, rfl, rfl, rfl, rfl, rfl⟩

/-! ## connection with the batch model of C15 -/

/-- the per-input results of a batch whose inputs complete in the order `sched` -/
def resultsOf {ι : Type} (outcome : ι → Outcome FpIn) (sched : List ι) : List (List FpIn) :=
  sched.map (fun i => (outcome i).getD [])

theorem resultsOf_flatten {ι : Type} (outcome : ι → Outcome FpIn) (sched : List ι) :
    (resultsOf outcome sched).flatten = batchRows outcome sched := by
  unfold resultsOf batchRows collect
  induction sched with
  | nil => rfl
  | cons i t ih => simp [List.flatten_cons, ih]

/-- **the rows of the database of a batch are the collected rows `batchRows`, stored through `fpRow`** -/
theorem dbOfBatch_batchRows {ι : Type} (k : Kind) (level : Int) (name : Option String)
    (outcome : ι → Outcome FpIn) (sched : List ι)
    (hacc : Accepted (dbOfBatch k level name (resultsOf outcome sched))) :
    (dbOfBatch k level name (resultsOf outcome sched)).1.spec = batchSpec k level name (batchRows outcome sched) ∧
    (dbOfBatch k level name (resultsOf outcome sched)).1.absRows.map (fun r => (r.cells, r.name)) =
      (batchRows outcome sched).map (fun f => (fpRow k f.fp, f.name)) := by
  obtain ⟨_, s1, _⟩ := dbOfBatch_spec k level name _ hacc
  rewrite [resultsOf_flatten] at s1
  refine ⟨s1, ?_⟩
  show (dbOfBatch k level name (resultsOf outcome sched)).1.spec.rows.map _ = _
  rewrite [s1]
  exact batchSpec_rows_cells k level name _

/-- `schedule_free` for the database: two schedules of the same inputs give databases whose rows are
permutations of each other, with the same kind, level, name, length and columns -/
theorem schedule_free_db {ι : Type} (k : Kind) (level : Int) (name : Option String)
    (outcome : ι → Outcome FpIn) (s₁ s₂ : List ι) (K : List String) (h : s₁.Perm s₂)
    (hacc₁ : Accepted (dbOfBatch k level name (resultsOf outcome s₁)))
    (hacc₂ : Accepted (dbOfBatch k level name (resultsOf outcome s₂)))
    (hK : ∀ f ∈ batchRows outcome s₂, dedupKeys (f.props.map Prod.fst) = K) :
    (dbOfBatch k level name (resultsOf outcome s₁)).1.absRows.Perm
        (dbOfBatch k level name (resultsOf outcome s₂)).1.absRows ∧
      (dbOfBatch k level name (resultsOf outcome s₁)).1.spec.keys =
        (dbOfBatch k level name (resultsOf outcome s₂)).1.spec.keys ∧
      (dbOfBatch k level name (resultsOf outcome s₁)).1.spec.bits =
        (dbOfBatch k level name (resultsOf outcome s₂)).1.spec.bits := by
  have hp : (resultsOf outcome s₁).Perm (resultsOf outcome s₂) := h.map _
  obtain ⟨hrows, _, _, _, hbits, hkeys⟩ := dbOfBatch_perm k level name (resultsOf outcome s₂) (resultsOf outcome s₁) K
    hp hacc₂ hacc₁ (by rewrite [resultsOf_flatten]; exact hK)
  exact ⟨hrows, hkeys, hbits⟩

/-! ## uniform batches are accepted -/

/-- **a batch whose fingerprints all have the database's level, one length and one property key list is
accepted in every completion order** -/
theorem dbOfBatch_accepts (k : Kind) (level : Int) (name : Option String) (results : List (List FpIn))
    (b : Nat) (K : List String)
    (hu : ∀ f ∈ results.flatten, f.fp.level = level ∧ f.fp.bits = b ∧ f.props.map Prod.fst = K) :
    Accepted (dbOfBatch k level name results) := by
  obtain ⟨_, hacc, _⟩ := dbOfBatch_accepted k level name results
  refine hacc.2 ?_
  cases hall : results.flatten with
  | nil => exact .inl rfl
  | cons f0 r =>
    rewrite [hall] at hu
    refine .inr ⟨List.cons_ne_nil _ _, fun f hf => (hu f hf).1, fun f hf => ?_, fun f hf k' hk' => ?_⟩
    · rewrite [(hu f hf).2.1]; exact (hu f0 List.mem_cons_self).2.1.symm
    · apply propLookup_ne_none_of_mem
      rewrite [(hu f hf).2.2, ← (hu f0 List.mem_cons_self).2.2]
      exact (mem_dedupKeys _ k').1 hk'

/-- under the uniformity hypotheses nothing else is needed: any two completion orders give the same
database up to the order of the rows -/
theorem dbOfBatch_perm_uniform (k : Kind) (level : Int) (name : Option String) (results results' : List (List FpIn))
    (b : Nat) (K : List String) (hp : results'.Perm results)
    (hu : ∀ f ∈ results.flatten, f.fp.level = level ∧ f.fp.bits = b ∧ f.props.map Prod.fst = K) :
    let d := (dbOfBatch k level name results).1
    let d' := (dbOfBatch k level name results').1
    Accepted (dbOfBatch k level name results) ∧ Accepted (dbOfBatch k level name results') ∧
    d'.absRows.Perm d.absRows ∧ d'.spec.kind = d.spec.kind ∧ d'.spec.level = d.spec.level ∧
      d'.spec.name = d.spec.name ∧ d'.spec.bits = d.spec.bits ∧ d'.spec.keys = d.spec.keys := by
  have a1 := dbOfBatch_accepts k level name results b K hu
  have a2 := dbOfBatch_accepts k level name results' b K (fun f hf => hu f (hp.flatten.mem_iff.1 hf))
  exact ⟨a1, a2, dbOfBatch_perm k level name results results' (dedupKeys K) hp a1 a2
    (fun f hf => by rw [(hu f hf).2.2])⟩

/-! ## non-vacuity, and the need for the equal-keys hypothesis -/

section Examples

private def fA : FpIn := ⟨⟨.bit, 8, 0, [1, 2], []⟩, some "a", [("w", .int 1), ("v", .int 10)]⟩
private def fB : FpIn := ⟨⟨.bit, 8, 0, [3], []⟩, some "b", [("w", .int 2), ("v", .int 20)]⟩
private def fC : FpIn := ⟨⟨.bit, 8, 0, [4, 7], []⟩, some "c", [("w", .int 3), ("v", .int 30)]⟩
/-- the same keys as `fA` in another order -/
private def fD : FpIn := ⟨⟨.bit, 8, 0, [5], []⟩, some "d", [("v", .int 40), ("w", .int 4)]⟩
/-- lacks the key `"v"` -/
private def fE : FpIn := ⟨⟨.bit, 8, 0, [6], []⟩, some "e", [("w", .int 5)]⟩

/-- two completion orders of three inputs (one of them failed: `[]`): both accepted, the rows are the
flattened results in the respective order -/
theorem perm_example :
    (dbOfBatch .bit 0 none [[fA, fB], [], [fC]]).2 = [none, none] ∧
    (dbOfBatch .bit 0 none [[fC], [fA, fB], []]).2 = [none, none] ∧
    (dbOfBatch .bit 0 none [[fA, fB], [], [fC]]).1.absRows.map (·.name) = [some "a", some "b", some "c"] ∧
    (dbOfBatch .bit 0 none [[fC], [fA, fB], []]).1.absRows.map (·.name) = [some "c", some "a", some "b"] ∧
    (dbOfBatch .bit 0 none [[fC], [fA, fB], []]).1.spec.keys = ["w", "v"] ∧
    (dbOfBatch .bit 0 none [[fC], [fA, fB], []]).1.absRows.map (·.props) =
      [[("w", .int 3), ("v", .int 30)], [("w", .int 1), ("v", .int 10)], [("w", .int 2), ("v", .int 20)]] := by
  decide +kernel

example : (dbOfBatch .bit 0 none [[fC], [fA, fB], []]).1.absRows.Perm
    (dbOfBatch .bit 0 none [[fA, fB], [], [fC]]).1.absRows :=
  (dbOfBatch_perm_uniform .bit 0 none [[fA, fB], [], [fC]] [[fC], [fA, fB], []] 8 ["w", "v"]
    (by decide +kernel) (by decide +kernel)).2.2.1

/-- **the equal-keys hypothesis cannot be dropped**: with the same key *set* in another order both
completion orders are accepted, but the first fingerprint to arrive dictates the column order, so the
columns and the rows of the two databases differ … -/
theorem keys_hypothesis_needed :
    (dbOfBatch .bit 0 none [[fA], [fD]]).2 = [none, none] ∧ (dbOfBatch .bit 0 none [[fD], [fA]]).2 = [none, none] ∧
    (dbOfBatch .bit 0 none [[fA], [fD]]).1.spec.keys = ["w", "v"] ∧
    (dbOfBatch .bit 0 none [[fD], [fA]]).1.spec.keys = ["v", "w"] ∧
    ¬ (dbOfBatch .bit 0 none [[fD], [fA]]).1.absRows.Perm (dbOfBatch .bit 0 none [[fA], [fD]]).1.absRows := by
  decide +kernel

/-- … and with a fingerprint lacking a key, whether the batch is accepted at all depends on the order:
arriving first, `fE` fixes the columns to `["w"]` and `fA` is stored without its `"v"`; arriving second,
it is refused with a `KeyError` -/
theorem keys_hypothesis_needed' :
    (dbOfBatch .bit 0 none [[fE], [fA]]).2 = [none, none] ∧
    (dbOfBatch .bit 0 none [[fE], [fA]]).1.absRows.map (·.props) = [[("w", .int 5)], [("w", .int 1)]] ∧
    (dbOfBatch .bit 0 none [[fA], [fE]]).2 = [none, some .key] ∧
    (dbOfBatch .bit 0 none [[fA], [fE]]).1.absRows.map (·.name) = [some "a"] := by
  decide +kernel

end Examples

end E3fpVerif.Props.C15Db
