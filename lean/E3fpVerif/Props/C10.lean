import E3fpVerif.Model.Fprint
import E3fpVerif.Lemmas.Uniq
import E3fpVerif.Lemmas.FpAux
/-!
# C10 — representations round-trip

Index array (with counts), bitstring, dense and sparse vector, RDKit bit vector, pickle.  The index-array, dense and sparse
round trips come down to `from_indices` on the fingerprint's own content (`fromIndices_self`), the bitstring and RDKit ones
(bit class) to `mkBit_self`; counts must survive the class's setter (`Stable`), and counterexamples show that the other
side conditions (`NonZero` for dense vectors, fewer than 2^31 bits for RDKit) cannot be dropped.
-/
namespace E3fpVerif.Props.C10
open E3fpVerif

/-- index-array round trip for bit fingerprints -/
theorem indices_rt_bit (f : Fp) (hk : f.kind = .bit) (hwf : f.WF) :
    mkBit f.idx f.bits f.level = .ok f :=
  mkBit_self f hk hwf

/-- the stored counts survive the class's value setter (`int(v)` for counts; always true for floats) -/
def Stable (f : Fp) : Prop := ∀ p ∈ f.cnt, coerce f.kind p.2 = p.2

theorem stable_float (f : Fp) (hk : f.kind = .float) : Stable f := by
  intro p _; rewrite [hk]; rfl

/-- index-array + counts round trip for count / float fingerprints -/
theorem indices_rt_count (f : Fp) (hk : f.kind ≠ .bit) (hwf : f.WF) (hst : Stable f) :
    mkCount f.kind (some f.idx) (some f.cnt) f.bits f.level = .ok f := by
  rewrite [mkCount_some_some_eq _ _ _ _ _ hwf.2.1 (by rewrite [hwf.2.2.2 hk]; intro x; rfl),
         uniq_of_strictAsc _ hwf.1]
  have := map_count_self f hk hwf f.kind hst
  simp only [Fp.count_of_ne_bit f hk] at this
  rw [this]

/-- `from_indices` on a fingerprint's own index array gives the fingerprint back, whatever counts the bit class is
handed (it ignores them), provided the count and float classes are handed the stored counts; the dense and sparse round
trips below rebuild the fingerprint this way -/
theorem fromIndices_self (f : Fp) (hwf : f.WF) (hst : Stable f) (c : Option (List (Nat × Rat)))
    (hc : f.kind ≠ .bit → c = some f.cnt) : fromIndices f.kind f.idx c f.bits f.level = .ok f := by
  by_cases hk : f.kind = .bit
  · rewrite [hk]; exact indices_rt_bit f hk hwf
  · rewrite [fromIndices_of_ne_bit _ hk, hc hk]; exact indices_rt_count f hk hwf hst

/-- `from_indices` round trip, every class -/
theorem indices_rt (f : Fp) (hwf : f.WF) (hst : Stable f) :
    fromIndices f.kind f.idx (if f.kind = .bit then none else some f.cnt) f.bits f.level = .ok f :=
  fromIndices_self f hwf hst _ fun hk => if_neg hk

theorem toBitstring_length (f : Fp) : f.toBitstring.length = f.bits := by
  simp [Fp.toBitstring]

/-- the set positions of the bitstring are exactly the indices -/
theorem toBitstring_get (f : Fp) (i : Nat) (hi : i < f.toBitstring.length) :
    f.toBitstring[i] = decide (i ∈ f.idx) := by
  simp [Fp.toBitstring]

theorem toBitstring_on (f : Fp) (hwf : f.WF) :
    (f.toBitstring.zipIdx.filter (fun p => p.1)).map Prod.snd = f.idx := by
  unfold Fp.toBitstring
  rewrite [filter_zipIdx_range (fun i => decide (i ∈ f.idx)) (fun b => b) f.idx f.bits hwf.1 hwf.2.1 (fun i _ => by simp)]
  simp only [List.map_map, Function.comp_def, List.map_id']

/-- `from_bitstring(to_bitstring())` -/
theorem bitstring_rt (f : Fp) (hk : f.kind = .bit) (hwf : f.WF) :
    fromBitstring .bit f.toBitstring f.level = .ok f := by
  unfold fromBitstring fromIndices
  simp only
  rewrite [toBitstring_on f hwf, toBitstring_length]
  exact indices_rt_bit f hk hwf

theorem toDense_length (f : Fp) : f.toDense.length = f.bits := by
  simp [Fp.toDense]

theorem toDense_get (f : Fp) (i : Nat) (hi : i < f.toDense.length) : f.toDense[i] = f.count i := by
  simp [Fp.toDense]

/-- all stored counts are non-zero (always so for a bit fingerprint) -/
def NonZero (f : Fp) : Prop := ∀ p ∈ f.cnt, p.2 ≠ 0

theorem count_ne_zero_iff (f : Fp) (hwf : f.WF) (hnz : NonZero f) (i : Nat) : f.count i ≠ 0 ↔ i ∈ f.idx := by
  constructor
  · intro h; apply Decidable.by_contra; intro hi; exact h (Fp.count_of_not_mem f hwf i hi)
  · intro hi
    by_cases hk : f.kind = .bit
    · rewrite [Fp.count_of_bit f hk, if_pos hi]; decide
    · rewrite [Fp.count_of_ne_bit f hk]
      have hkeys := hwf.2.2.2 hk
      rewrite [← hkeys] at hi
      obtain ⟨p, hp, rfl⟩ := List.mem_map.1 hi
      rewrite [lookupQ_of_mem f.cnt (by rewrite [hkeys]; exact hwf.1.nodup) p hp]
      exact hnz p hp

theorem toDense_nz (f : Fp) (hwf : f.WF) (hnz : NonZero f) :
    f.toDense.zipIdx.filter (fun p => decide (p.1 ≠ 0)) = f.idx.map (fun i => (f.count i, i)) := by
  unfold Fp.toDense
  exact filter_zipIdx_range f.count (fun v => decide (v ≠ 0)) f.idx f.bits hwf.1 hwf.2.1
    (fun i _ => decide_eq_true_iff.trans (count_ne_zero_iff f hwf hnz i))

/-- `from_vector(to_vector(sparse=False))`, every class.  For the count and float classes it needs every
stored count non-zero: a stored zero is indistinguishable from an absent position in the dense vector -/
theorem dense_rt (f : Fp) (hwf : f.WF) (hnz : NonZero f) (hst : Stable f) :
    fromDense f.kind f.toDense f.level = .ok f := by
  unfold fromDense
  simp only
  rewrite [toDense_nz f hwf hnz, toDense_length]
  simp only [List.map_map, Function.comp_def, List.map_id']
  exact fromIndices_self f hwf hst _ fun hk => congrArg some (map_count_self f hk hwf .float fun _ _ => rfl)

/-- the non-zero hypothesis of `dense_rt` cannot be dropped -/
theorem dense_loses_zero_count :
    let f : Fp := ⟨.float, 4, 0, [1], [(1, 0)]⟩
    f.WF ∧ fromDense .float f.toDense f.level = .ok ⟨.float, 4, 0, [], []⟩ :=
  ⟨⟨by decide, by decide, by decide, fun _ => by decide⟩, rfl⟩

/-- `from_vector(to_vector(sparse=True))`, every class, through `fp.counts`: a bit fingerprint stores its
indices with value 1; a count or float fingerprint stores explicit zeros too, so no non-zero hypothesis is needed -/
theorem sparse_rt (f : Fp) (hwf : f.WF) (hst : Stable f) :
    fromSparse f.kind f.countsDict f.bits f.level = .ok f := by
  unfold fromSparse
  rewrite [countsDict_keys f hwf]
  refine fromIndices_self f hwf hst _ fun hk => ?_
  unfold Fp.countsDict
  split
  · rename_i e; exact absurd e hk
  · rfl

/-- below 2^31 bits `to_rdkit` loses nothing but the level -/
theorem rdkit_rt (f : Fp) (hk : f.kind = .bit) (hwf : f.WF) (hb : f.bits < 2 ^ 31) :
    fromRdkit .bit f.toRdkit.1 f.toRdkit.2 = .ok { f with level := -1 } := by
  -- `bits ≤ 2^31 - 1`, so neither the `min` nor the `% (2^31 - 1)` of `to_rdkit` changes anything
  have hb' := Nat.le_sub_one_of_lt hb
  have hmap :=
    (List.map_congr_left fun i hi => Nat.mod_eq_of_lt (Nat.lt_of_lt_of_le (hwf.2.1 i hi) hb')).trans (List.map_id _)
  unfold fromRdkit Fp.toRdkit fromIndices
  simp only
  rewrite [Nat.min_eq_left hb', hmap, uniq_of_strictAsc _ hwf.1, if_neg (Nat.ne_of_lt (Nat.lt_trans hb (by decide)))]
  exact mkBit_self { f with level := -1 } hk hwf

/-- at the default length 2^32 the RDKit round trip does not give the fingerprint back: RDKit's
`ExplicitBitVect` holds 2^31 - 1 bits, and only the exact value 2^32 - 1 is mapped back to 2^32 -/
theorem rdkit_loses_length :
    let f : Fp := ⟨.bit, 2 ^ 32, -1, [], []⟩
    f.WF ∧ fromRdkit .bit f.toRdkit.1 f.toRdkit.2 = .ok ⟨.bit, 2 ^ 31 - 1, -1, [], []⟩ :=
  ⟨⟨by decide, by decide, fun _ => rfl, fun h => absurd rfl h⟩, rfl⟩

theorem pickle_rt (f : Fp) (hwf : f.WF) : Fp.pickleRoundTrip f = f :=
  Fp.pickleRoundTrip_of_wf f hwf

def exB : Fp := ⟨.bit, 8, 5, [1, 3], []⟩
def exC : Fp := ⟨.count, 8, 5, [1, 3], [(1, 2), (3, 1)]⟩
theorem exB_wf : exB.WF := ⟨by decide, by decide, fun _ => rfl, fun h => absurd rfl h⟩
theorem exC_wf : exC.WF := ⟨by decide, by decide, by decide, fun _ => by decide⟩
theorem exC_stable : Stable exC := by
  unfold Stable; decide
theorem exC_nz : NonZero exC := by
  unfold NonZero; decide

example : fromBitstring .bit exB.toBitstring exB.level = .ok exB := bitstring_rt exB rfl exB_wf
example : exB.toBitstring = [false, true, false, true, false, false, false, false] := by decide +kernel
example : fromDense .bit exB.toDense exB.level = .ok exB :=
  dense_rt exB exB_wf (fun _ h => nomatch h) (fun _ h => nomatch h)
example : fromDense .count exC.toDense exC.level = .ok exC := dense_rt exC exC_wf exC_nz exC_stable
example : fromSparse .count exC.cnt exC.bits exC.level = .ok exC := sparse_rt exC exC_wf exC_stable
example : mkCount .count (some exC.idx) (some exC.cnt) 8 5 = .ok exC := indices_rt_count exC (by decide) exC_wf exC_stable
example : fromRdkit .bit exB.toRdkit.1 exB.toRdkit.2 = .ok { exB with level := -1 } :=
  rdkit_rt exB rfl exB_wf (by decide)
example : Fp.pickleRoundTrip exC = exC := pickle_rt exC exC_wf

end E3fpVerif.Props.C10
