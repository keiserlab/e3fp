import E3fpVerif.Props.C07
import E3fpVerif.Lemmas.Fprinter
import E3fpVerif.Lemmas.FpAux
/-!
# C07 — the fingerprinter route: asking for `b` bits is folding the 2^32-bit fingerprint to `b`

`fingerprintAt` (model of `Fingerprinter.get_fingerprint_at_level(level, bits, atom_mask)`) builds the fingerprint of the
unsigned identifiers at length `Gen.BITS` and folds it to the requested length (`bits`, default: the constructor's).  For every
state, level, mask and option set: the `b`-bit answer is the fold of the 2^32-bit answer - for bit and for count fingerprints
(whose counts are multiplicities, hence whole numbers) - whatever length the fingerprinter was *constructed* with.
-/
namespace E3fpVerif.Props.C07Route
open E3fpVerif E3fpVerif.Props.C07

/-- the counts of a count fingerprint built from an index list are multiplicities: whole numbers -/
theorem fromIndices_count_int (ids : List Nat) (bits : Nat) (level : Int) (f : Fp)
    (h : fromIndices .count ids none bits level = .ok f) : ∀ i ∈ f.idx, truncQ (f.count i) = f.count i := by
  intro i _
  rewrite [(mkCount_ids .count (by decide) ids bits level f h).2.2 i]
  exact coerce_natCast .count _

/-- **the fingerprinter route**: the fingerprint requested at `b` bits is the 2^32-bit fingerprint folded to `b` -/
theorem fprinter_route (o : Opts) (s : FState) (req : Option Int) (b : Nat) (mask : List Nat) (f32 g : Fp)
    (h32 : fingerprintAt o s req (some Gen.BITS) mask = .ok f32)
    (hb : fingerprintAt o s req (some b) mask = .ok g) : f32.fold b 0 = .ok g := by
  -- `f` is the 2^32-bit fingerprint before any fold: `h32` folds it to its own length, `hb` to `b`
  obtain ⟨f, hf, h32⟩ := (fingerprintAt_eq_ok o s req _ mask f32).1 h32
  obtain ⟨f', hf', hb⟩ := (fingerprintAt_eq_ok o s req _ mask g).1 hb
  cases Except.ok.inj (hf.symm.trans hf')
  obtain ⟨h1, h2, _, _⟩ := (fold_ok_iff f g b 0 .sum).1 hb
  have e32 : f32.bits = f.bits :=
    (fold_ok f f32 _ 0 .sum h32).2.1.trans (fromIndices_fields _ _ _ _ _ f hf).2.1.symm
  have h₂ : f32.fold b 0 = .ok (folded f32 b 0 .sum) :=
    (fold_ok_iff _ _ b 0 .sum).2 ⟨e32 ▸ h1, e32 ▸ h2, .inl rfl, rfl⟩
  refine h₂.trans (congrArg Except.ok ?_)
  by_cases hc : o.counts = true
  · rewrite [if_pos hc] at hf
    exact fold_fold_eq_count f f32 _ g Gen.BITS b 0 (fromIndices_fields _ _ _ _ _ f hf).1
      (fromIndices_count_int _ _ _ f hf) h32 h₂ hb
  · rewrite [if_neg hc] at hf
    exact fold_fold_bit f f32 _ g Gen.BITS b 0 .sum .sum .sum (fromIndices_fields _ _ _ _ _ f hf).1 h32 h₂ hb

/-- the answer at an explicit length reads `counts` and no other option: in particular not the length the
fingerprinter was constructed with -/
theorem fprinter_route_ctor_free (o o' : Opts) (s : FState) (req : Option Int) (b : Nat) (mask : List Nat)
    (hc : o.counts = o'.counts) : fingerprintAt o s req (some b) mask = fingerprintAt o' s req (some b) mask := by
  unfold fingerprintAt
  simp only [Option.getD_some, hc]

end E3fpVerif.Props.C07Route
