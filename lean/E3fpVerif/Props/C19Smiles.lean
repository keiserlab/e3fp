import E3fpVerif.Model.SmilesIO
import E3fpVerif.Lemmas.SmilesIO
/-!
# C19 (SMILES files): a name-to-SMILES table written to a SMILES file and read back is the same table

Model: `Model/SmilesIO.lean` (`writeTable` = `dict_to_smiles`, `readTable` = `smiles_to_dict`).
The property (`table_rt_eq` and its corollaries `table_rt*`) holds for tables with pairwise distinct names whose
names and SMILES strings are tokens; each hypothesis is shown necessary by an evaluated counterexample.
For files with repeated names, `plain_last_wins` and `unique_first_wins` say which record is stored.
-/
namespace E3fpVerif.Props.C19Smiles
open E3fpVerif

/-- fields each followed by a whitespace run, concatenated -/
def joinFields (ps : List (List Char × List Char)) : List Char := (ps.map (fun p => p.1 ++ p.2)).flatten

theorem splitWs_joinFields_append {ps : List (List Char × List Char)} (rest : List Char)
    (h : ∀ p ∈ ps, Token p.1 ∧ AllWs p.2 ∧ p.2 ≠ []) :
    splitWs (joinFields ps ++ rest) = ps.map Prod.fst ++ splitWs rest := by
  induction ps with
  | nil => rfl
  | cons p ps ih =>
    obtain ⟨ht, hw, hne⟩ := h p List.mem_cons_self
    have e : joinFields (p :: ps) ++ rest = p.1 ++ p.2 ++ (joinFields ps ++ rest) := by
      simp only [joinFields, List.map_cons, List.flatten_cons, List.append_assoc]
    rw [e, splitWs_token_ws_append _ ht hw hne, ih (fun q hq => h q (List.mem_cons_of_mem _ hq)),
      List.map_cons, List.cons_append]

/-- two tokens, separated by a non-empty whitespace run, with optional leading and trailing whitespace -/
theorem splitWs_two_ws (w0 t1 w1 t2 w2 : List Char) (h0 : AllWs w0) (h1 : AllWs w1) (h1ne : w1 ≠ [])
    (h2 : AllWs w2) (ht1 : Token t1) (ht2 : Token t2) :
    splitWs (w0 ++ t1 ++ w1 ++ t2 ++ w2) = [t1, t2] := by
  have e : w0 ++ t1 ++ w1 ++ t2 ++ w2 = w0 ++ (t1 ++ w1 ++ (t2 ++ w2)) := by simp only [List.append_assoc]
  rw [e, splitWs_ws_append _ h0, splitWs_token_ws_append _ ht1 h1 h1ne, splitWs_token_ws ht2 h2]

/-- general form: optional leading whitespace, then tokens each followed by a non-empty whitespace run -/
theorem splitWs_join (w0 : List Char) (ps : List (List Char × List Char)) (h0 : AllWs w0)
    (h : ∀ p ∈ ps, Token p.1 ∧ AllWs p.2 ∧ p.2 ≠ []) :
    splitWs (w0 ++ joinFields ps) = ps.map Prod.fst := by
  have := splitWs_joinFields_append [] h
  rwa [List.append_nil, splitWs_nil, List.append_nil, ← splitWs_ws_append _ h0] at this

/-- the same with a last token that is not followed by whitespace -/
theorem splitWs_join_last (w0 : List Char) (ps : List (List Char × List Char)) (t : List Char) (h0 : AllWs w0)
    (h : ∀ p ∈ ps, Token p.1 ∧ AllWs p.2 ∧ p.2 ≠ []) (ht : Token t) :
    splitWs (w0 ++ joinFields ps ++ t) = ps.map Prod.fst ++ [t] := by
  rw [List.append_assoc, splitWs_ws_append _ h0, splitWs_joinFields_append t h, splitWs_token ht]

/-- Python's `sep.join(ts)` -/
def joinSep (sep : List Char) : List (List Char) → List Char
  | [] => []
  | [t] => t
  | t :: u :: ts => t ++ sep ++ joinSep sep (u :: ts)

/-- `sep.join(tokens).split() == tokens` for a non-empty whitespace separator -/
theorem splitWs_joinSep (sep : List Char) (ts : List (List Char)) (hsep : AllWs sep) (hne : sep ≠ [])
    (h : ∀ t ∈ ts, Token t) : splitWs (joinSep sep ts) = ts := by
  induction ts with
  | nil => rfl
  | cons t ts ih =>
    cases ts with
    | nil => exact splitWs_token (h t List.mem_cons_self)
    | cons u us =>
      have e : joinSep sep (t :: u :: us) = t ++ sep ++ joinSep sep (u :: us) := rfl
      rw [e, splitWs_token_ws_append _ (h t List.mem_cons_self) hsep hne,
        ih (fun q hq => h q (List.mem_cons_of_mem _ hq))]

theorem parse_render {name smiles : List Char} (hn : Token name) (hs : Token smiles) :
    parseLine (renderLine name smiles) = some (smiles, name) := by
  unfold parseLine renderLine
  rw [splitWs_token_ws_append (w := [' ']) name hs (by decide) (by decide), splitWs_token hn]

/-- the records of a written file are the items written (as `(smiles, name)`) -/
theorem parse_render_all {l : List Item} (h : ∀ e ∈ l, Token e.1 ∧ Token e.2) :
    (l.map (fun e => renderLine e.1 e.2)).filterMap parseLine = l.map (fun e => (e.2, e.1)) := by
  rewrite [List.filterMap_map]
  exact filterMap_eq_map_of_some l _ _ fun e he => parse_render (h e he).1 (h e he).2

theorem readTable_plain (lines : List (List Char)) :
    readTable lines false false = (lines.filterMap parseLine).foldl (fun acc r => dictSet acc r.2 r.1) [] := rfl

/-- reading any list of well-formed items with pairwise distinct names, written one per line, gives the list:
the names are distinct, so each `dict[name] = smiles` appends -/
theorem read_rendered {l : List Item} (hnd : (l.map Prod.fst).Nodup)
    (htok : ∀ e ∈ l, Token e.1 ∧ Token e.2) :
    readTable (l.map (fun e => renderLine e.1 e.2)) false false = l := by
  rewrite [readTable_plain, parse_render_all htok, List.foldl_map]
  exact foldl_dictSet_nodup l [] hnd

theorem sortItems_tokens {d : List Item} (htok : ∀ e ∈ d, Token e.1 ∧ Token e.2) :
    ∀ e ∈ sortItems d, Token e.1 ∧ Token e.2 :=
  fun e he => htok e ((sortItems_perm d).mem_iff.mp he)

/-- the table read back is the written table, stored in the order of the names -/
theorem table_rt_eq {d : List Item} (hnd : (d.map Prod.fst).Nodup)
    (htok : ∀ e ∈ d, Token e.1 ∧ Token e.2) :
    readTable (writeTable d) false false = sortItems d :=
  read_rendered (sortItems_keys_nodup hnd) (sortItems_tokens htok)

/-- C19 (SMILES file): the table read back is the same finite map -/
theorem table_rt (d : List (List Char × List Char)) (hnd : (d.map Prod.fst).Nodup)
    (htok : ∀ e ∈ d, Token e.1 ∧ Token e.2) (name : List Char) :
    dictGet (readTable (writeTable d) false false) name = dictGet d name := by
  rewrite [table_rt_eq hnd htok]
  exact dictGet_perm (sortItems_keys_nodup hnd) (sortItems_perm d) name

theorem table_rt_keys_perm (d : List (List Char × List Char)) (hnd : (d.map Prod.fst).Nodup)
    (htok : ∀ e ∈ d, Token e.1 ∧ Token e.2) :
    ((readTable (writeTable d) false false).map Prod.fst).Perm (d.map Prod.fst) := by
  rewrite [table_rt_eq hnd htok]
  exact sortItems_keys_perm d

/-- the items read back are the items written (as a multiset) -/
theorem table_rt_perm (d : List (List Char × List Char)) (hnd : (d.map Prod.fst).Nodup)
    (htok : ∀ e ∈ d, Token e.1 ∧ Token e.2) :
    (readTable (writeTable d) false false).Perm d := by
  rewrite [table_rt_eq hnd htok]
  exact sortItems_perm d

/-- the keys read back are strictly increasing -/
theorem table_rt_sorted (d : List (List Char × List Char)) (hnd : (d.map Prod.fst).Nodup)
    (htok : ∀ e ∈ d, Token e.1 ∧ Token e.2) :
    (readTable (writeTable d) false false).Pairwise (fun a b => ltChars a.1 b.1 = true) := by
  rewrite [table_rt_eq hnd htok]
  exact sortItems_sorted hnd

/-- a second round trip changes nothing -/
theorem table_rt_idem (d : List (List Char × List Char)) (hnd : (d.map Prod.fst).Nodup)
    (htok : ∀ e ∈ d, Token e.1 ∧ Token e.2) :
    readTable (writeTable (readTable (writeTable d) false false)) false false
      = readTable (writeTable d) false false := by
  rw [table_rt_eq hnd htok,
    table_rt_eq (sortItems_keys_nodup hnd) (sortItems_tokens htok), sortItems_idem hnd]

/-- the written file is a fixed point as well -/
theorem write_rt_idem (d : List (List Char × List Char)) (hnd : (d.map Prod.fst).Nodup)
    (htok : ∀ e ∈ d, Token e.1 ∧ Token e.2) :
    writeTable (readTable (writeTable d) false false) = writeTable d := by
  rewrite [table_rt_eq hnd htok]
  unfold writeTable
  rw [sortItems_idem hnd]

/-- two dicts with the same items in different insertion orders give the same file -/
theorem writeTable_perm (d₁ d₂ : List (List Char × List Char)) (hnd : (d₁.map Prod.fst).Nodup)
    (hp : d₁.Perm d₂) : writeTable d₁ = writeTable d₂ := by
  unfold writeTable
  rw [sortItems_eq_of_perm hnd hp]

/-- a name containing a blank: the table read back has the key `"x"` instead of `"x y"` -/
example :
    let d := [(['x', ' ', 'y'], ['C', 'C'])]
    readTable (writeTable d) false false = [(['x'], ['C', 'C'])]
      ∧ dictGet (readTable (writeTable d) false false) ['x', ' ', 'y'] = none
      ∧ dictGet d ['x', ' ', 'y'] = some ['C', 'C'] := by decide +kernel

/-- a SMILES string containing a blank: the second half is read as the name -/
example :
    let d := [(['m'], ['C', ' ', 'O'])]
    readTable (writeTable d) false false = [(['O'], ['C'])] := by decide +kernel

/-- an empty name: the line has one field and is skipped -/
example :
    let d := [([], ['C', 'C']), (['m'], ['O'])]
    readTable (writeTable d) false false = [(['m'], ['O'])] ∧ dictGet d [] = some ['C', 'C'] := by decide +kernel

/-- an empty SMILES string: the line has one field and is skipped -/
example :
    let d := [(['m'], []), (['n'], ['O'])]
    readTable (writeTable d) false false = [(['n'], ['O'])] ∧ dictGet d ['m'] = some [] := by decide +kernel

/-- two entries with the same name collapse into one (a Python dict cannot hold this; an item list can) -/
example :
    let d := [(['m'], ['C']), (['m'], ['O'])]
    (readTable (writeTable d) false false).length = 1 ∧ (sortItems d).length = 2
      ∧ readTable (writeTable d) false false ≠ sortItems d := by decide +kernel

/-- without distinct names, sorting twice is not sorting once (equal names are swapped) -/
example :
    let d := [(['m'], ['C']), (['m'], ['O'])]
    sortItems (sortItems d) ≠ sortItems d := by decide +kernel

/-- with a header, the first *parsed* record is dropped -/
theorem readTable_header (lines : List (List Char)) :
    readTable lines false true
      = ((lines.filterMap parseLine).drop 1).foldl (fun acc r => dictSet acc r.2 r.1) [] := rfl

/-- a first line with at least two fields is the header -/
theorem readTable_header_cons {l : List Char} (lines : List (List Char)) (u : Bool)
    {r : List Char × List Char} (h : parseLine l = some r) :
    readTable (l :: lines) u true = readTable lines u false := by
  unfold readTable
  rewrite [List.filterMap_cons_some h]
  rfl

/-- a first line with fewer than two fields is skipped *before* the header is taken: the next parsed line
is dropped as the header (as `next(smiles_gen)` does) -/
theorem readTable_header_skip (l : List Char) (lines : List (List Char)) (u : Bool)
    (h : parseLine l = none) : readTable (l :: lines) u true = readTable lines u true := by
  unfold readTable
  rw [List.filterMap_cons_none h]

/-- a table written under a one-line two-field header is read back with `has_header` -/
theorem table_rt_header (hdr : List Char) (r : List Char × List Char) (hh : parseLine hdr = some r)
    (d : List (List Char × List Char)) (hnd : (d.map Prod.fst).Nodup)
    (htok : ∀ e ∈ d, Token e.1 ∧ Token e.2) :
    readTable (hdr :: writeTable d) false true = sortItems d := by
  rw [readTable_header_cons _ false hh, table_rt_eq hnd htok]

theorem dictGet_foldl_dictSet {recs : List (List Char × List Char)} (D : List Item)
    {n : List Char} (h : n ∉ recs.map Prod.snd) :
    dictGet (recs.foldl (fun acc r => dictSet acc r.2 r.1) D) n = dictGet D n := by
  induction recs generalizing D with
  | nil => rfl
  | cons q qs ih =>
    rewrite [List.map_cons, List.mem_cons, not_or] at h
    rw [List.foldl_cons, ih _ h.2, dictGet_dictSet, if_neg (fun e => h.1 e.symm)]

/-- without `unique`, last wins: the last record of a name is the one stored -/
theorem plain_last_wins (lines : List (List Char)) (pre post : List (List Char × List Char))
    (r : List Char × List Char) (hrecs : lines.filterMap parseLine = pre ++ r :: post)
    (hn : r.2 ∉ post.map Prod.snd) :
    dictGet (readTable lines false false) r.2 = some r.1 := by
  rw [readTable_plain, hrecs, List.foldl_append, List.foldl_cons, dictGet_foldl_dictSet _ hn,
    dictGet_dictSet, if_pos rfl]

/-- one step of the `unique=True` loop: the function `readTable` folds (`readTable_unique`) -/
def ustep (acc : List Item × List (List Char)) (r : List Char × List Char) :
    List Item × List (List Char) :=
  if (dictGet acc.1 r.2).isSome || acc.2.contains r.1 then acc else (dictSet acc.1 r.2 r.1, r.1 :: acc.2)

theorem readTable_unique (lines : List (List Char)) :
    readTable lines true false = ((lines.filterMap parseLine).foldl ustep ([], [])).1 := rfl

/-- a record is stored, by appending it, only if neither its name nor its SMILES string has been seen -/
theorem ustep_eq (D : List Item) (S : List (List Char)) (r : List Char × List Char) :
    ustep (D, S) r = if r.2 ∈ D.map Prod.fst ∨ r.1 ∈ S then (D, S) else (D ++ [(r.2, r.1)], r.1 :: S) := by
  unfold ustep
  by_cases hn : r.2 ∈ D.map Prod.fst
  · rewrite [(dictGet_isSome_iff D r.2).mpr hn, if_pos (Or.inl hn : r.2 ∈ D.map Prod.fst ∨ r.1 ∈ S)]; rfl
  · rewrite [dictGet_eq_none hn, dictSet_fresh r.1 hn]
    simp only [Option.isSome_none, Bool.false_or, List.contains_iff_mem, hn, false_or]

/-- `unique=True` never replaces a stored entry -/
theorem ufold_keeps (recs : List (List Char × List Char)) {D : List Item} (S : List (List Char))
    {n v : List Char} (h : dictGet D n = some v) : dictGet (recs.foldl ustep (D, S)).1 n = some v := by
  induction recs generalizing D S with
  | nil => exact h
  | cons r rs ih =>
    rewrite [List.foldl_cons, ustep_eq]
    split
    · exact ih S h
    · exact ih _ (by rewrite [dictGet_eq_lookup, List.lookup_append, ← dictGet_eq_lookup, h]; rfl)

theorem ufold_first_wins {pre : List (List Char × List Char)} (post : List (List Char × List Char))
    {r : List Char × List Char} {D : List Item} {S : List (List Char)} (hn : r.2 ∉ D.map Prod.fst) (hs : r.1 ∉ S)
    (hn' : r.2 ∉ pre.map Prod.snd) (hs' : r.1 ∉ pre.map Prod.fst) :
    dictGet ((pre ++ r :: post).foldl ustep (D, S)).1 r.2 = some r.1 := by
  induction pre generalizing D S with
  | nil =>
    rewrite [List.nil_append, List.foldl_cons, ustep_eq, if_neg (not_or.mpr ⟨hn, hs⟩)]
    apply ufold_keeps
    rw [← dictSet_fresh r.1 hn, dictGet_dictSet, if_pos rfl]
  | cons q qs ih =>
    rewrite [List.map_cons, List.mem_cons, not_or] at hn' hs'
    rewrite [List.cons_append, List.foldl_cons, ustep_eq]
    split
    · exact ih hn hs hn'.2 hs'.2
    · refine ih ?_ (List.not_mem_cons_of_ne_of_not_mem hs'.1 hs) hn'.2 hs'.2
      rewrite [List.map_append, List.mem_append, not_or]
      exact ⟨hn, fun h => hn'.1 (List.mem_singleton.mp h)⟩

/-- `unique=True`, first wins: a record whose name and whose SMILES string occur in no earlier record is
stored, and nothing that follows replaces it -/
theorem unique_first_wins (lines : List (List Char)) (pre post : List (List Char × List Char))
    (r : List Char × List Char) (hrecs : lines.filterMap parseLine = pre ++ r :: post)
    (hn : r.2 ∉ pre.map Prod.snd) (hs : r.1 ∉ pre.map Prod.fst) :
    dictGet (readTable lines true false) r.2 = some r.1 := by
  rewrite [readTable_unique, hrecs]
  exact ufold_first_wins post List.not_mem_nil List.not_mem_nil hn hs

/-- in particular the first record of the file is always stored -/
theorem unique_first_record (lines : List (List Char)) (r : List Char × List Char)
    (post : List (List Char × List Char)) (hrecs : lines.filterMap parseLine = r :: post) :
    dictGet (readTable lines true false) r.2 = some r.1 :=
  unique_first_wins lines [] post r hrecs (fun h => by cases h) (fun h => by cases h)

theorem ufold_distinct (recs : List (List Char × List Char)) (D : List Item)
    (S : List (List Char)) (h1 : (D.map Prod.fst ++ recs.map Prod.snd).Nodup)
    (h2 : (S ++ recs.map Prod.fst).Nodup) :
    (recs.foldl ustep (D, S)).1 = D ++ recs.map (fun r => (r.2, r.1)) := by
  induction recs generalizing D S with
  | nil => rw [List.foldl_nil, List.map_nil, List.append_nil]
  | cons r rs ih =>
    have hn : r.2 ∉ D.map Prod.fst := fun hmem =>
      (List.nodup_append.mp h1).2.2 r.2 hmem r.2 List.mem_cons_self rfl
    have hs : r.1 ∉ S := fun hmem =>
      (List.nodup_append.mp h2).2.2 r.1 hmem r.1 List.mem_cons_self rfl
    rewrite [List.foldl_cons, ustep_eq, if_neg (not_or.mpr ⟨hn, hs⟩), ih (D ++ [(r.2, r.1)]) (r.1 :: S)]
    · rw [List.map_cons, List.append_assoc, List.singleton_append]
    · rwa [List.map_append, List.append_assoc]
    · exact (List.perm_middle (l₁ := S) (a := r.1) (l₂ := rs.map Prod.fst)).nodup_iff.mp h2

/-- if all names are distinct and all SMILES strings are distinct, `unique=True` changes nothing -/
theorem unique_eq_plain {lines : List (List Char)}
    (hn : ((lines.filterMap parseLine).map Prod.snd).Nodup)
    (hs : ((lines.filterMap parseLine).map Prod.fst).Nodup) :
    readTable lines true false = readTable lines false false := by
  rewrite [readTable_unique, readTable_plain]
  generalize lines.filterMap parseLine = recs at hn hs
  rewrite [ufold_distinct recs [] [] hn hs, List.nil_append]
  have := foldl_dictSet_nodup (recs.map (fun r => (r.2, r.1))) [] (by rewrite [List.nil_append, List.map_map]; exact hn)
  rewrite [List.foldl_map] at this
  exact this.symm

/-- the round trip with `unique=True`, for tables whose SMILES strings are pairwise distinct as well -/
theorem table_rt_unique (d : List (List Char × List Char)) (hnd : (d.map Prod.fst).Nodup)
    (hsd : (d.map Prod.snd).Nodup) (htok : ∀ e ∈ d, Token e.1 ∧ Token e.2) :
    readTable (writeTable d) true false = sortItems d := by
  have hrec : (writeTable d).filterMap parseLine = (sortItems d).map (fun e => (e.2, e.1)) :=
    parse_render_all (sortItems_tokens htok)
  rw [unique_eq_plain, table_rt_eq hnd htok]
  · rewrite [hrec, List.map_map]; exact sortItems_keys_nodup hnd
  · rewrite [hrec, List.map_map]
    exact (((sortItems_perm d).map Prod.snd).nodup_iff).mpr hsd

/-- with `unique=True` two names with the same SMILES string do not both survive -/
example :
    let d := [(['a'], ['C']), (['b'], ['C'])]
    readTable (writeTable d) true false = [(['a'], ['C'])]
      ∧ readTable (writeTable d) false false = d := by decide +kernel

/-- a three-entry table inserted out of order: the file lines and the table read back -/
example :
    let d := [(['m', '2'], ['C', 'C', 'O']), (['m', '1'], ['c', '1', 'c', 'c', 'c', 'c', 'c', '1']),
      (['a'], ['N'])]
    (d.map Prod.fst).Nodup ∧ (∀ e ∈ d, Token e.1 ∧ Token e.2)
      ∧ writeTable d = [['N', ' ', 'a'], ['c', '1', 'c', 'c', 'c', 'c', 'c', '1', ' ', 'm', '1'],
          ['C', 'C', 'O', ' ', 'm', '2']]
      ∧ readTable (writeTable d) false false
          = [(['a'], ['N']), (['m', '1'], ['c', '1', 'c', 'c', 'c', 'c', 'c', '1']), (['m', '2'], ['C', 'C', 'O'])]
      ∧ dictGet (readTable (writeTable d) false false) ['m', '2'] = some ['C', 'C', 'O'] := by decide +kernel

/-- a hand-written file: tabs, runs of blanks, a third column, a one-field line, a repeated name -/
example :
    readTable [['C', '\t', 'a'], [' ', 'N', ' ', ' ', 'b', ' ', 'x', ' '], ['O'], [], ['S', ' ', 'a']] false false
      = [(['a'], ['S']), (['b'], ['N'])]
    ∧ readTable [['C', '\t', 'a'], [' ', 'N', ' ', ' ', 'b', ' ', 'x', ' '], ['O'], [], ['S', ' ', 'a']] true false
      = [(['a'], ['C']), (['b'], ['N'])]
    ∧ readTable [['C', '\t', 'a'], [' ', 'N', ' ', ' ', 'b', ' ', 'x', ' '], ['O'], [], ['S', ' ', 'a']] false true
      = [(['b'], ['N']), (['a'], ['S'])] := by decide +kernel

end E3fpVerif.Props.C19Smiles
