import E3fpVerif.Model.Fprint
import E3fpVerif.Lemmas.Uniq
import E3fpVerif.Lemmas.FpAux
/-!
# C09 — `==` is a content-based equivalence; copies and pickles equal their source

Inside a family (bit / count-or-float) `Fp.eq` compares a key, `eqKey`, and across the families it raises
(`eq_eq`); every property of `==` is then the same property of `=` on keys.
-/
namespace E3fpVerif.Props.C09
open E3fpVerif

/-- what `==` compares once both operands are of one family: level, length, and the index array (bit
class) or the counts dictionary and the class (count / float) -/
def eqKey (f : Fp) : Int × Nat × (List Nat ⊕ List (Nat × Rat) × Kind) :=
  (f.level, f.bits, if f.kind = .bit then .inl f.idx else .inr (f.cnt, f.kind))

/-- `==` rejects operands of different families and otherwise compares keys; so within a family it is
an equivalence relation because equality of keys is one -/
theorem eq_eq (f g : Fp) :
    f.eq g = if (f.kind = .bit ↔ g.kind = .bit) then .ok (decide (eqKey f = eqKey g)) else .error .invalidFp := by
  unfold Fp.eq eqKey
  split
  · rename_i hf hg
    rewrite [if_pos (by simp only [hf, hg])]
    refine congrArg _ (Bool.eq_iff_iff.2 ?_)
    simp only [hf, hg, Bool.and_eq_true, beq_iff_eq, decide_eq_true_eq, if_true, Prod.mk.injEq, Sum.inl.injEq, and_assoc]
  · rename_i hf hg
    rw [if_neg (by simp only [hf, true_iff]; exact fun e => hg e)]
  · rename_i hg hf
    rw [if_neg (by simp only [hg, iff_true]; exact fun e => hf e)]
  · rename_i hf hg _
    rewrite [if_pos ⟨fun e => (hf e).elim, fun e => (hg e).elim⟩, if_neg hf, if_neg hg]
    refine congrArg _ (Bool.eq_iff_iff.2 ?_)
    simp only [Bool.and_eq_true, beq_iff_eq, decide_eq_true_eq, Prod.mk.injEq, Sum.inr.injEq, and_assoc]

theorem eq_ok_iff (f g : Fp) (b : Bool) :
    f.eq g = .ok b ↔ (f.kind = .bit ↔ g.kind = .bit) ∧ b = decide (eqKey f = eqKey g) := by
  rewrite [eq_eq]
  split
  · rename_i h; simp only [Except.ok.injEq, h, true_and, eq_comm]
  · rename_i h; simp only [h, false_and, reduceCtorEq]

theorem eq_true_iff (f g : Fp) : f.eq g = .ok true ↔ (f.kind = .bit ↔ g.kind = .bit) ∧ eqKey f = eqKey g := by
  rw [eq_ok_iff, eq_comm (a := true), decide_eq_true_iff]

/-- `==` between bit fingerprints decides equality of content -/
theorem eq_bit_iff (f g : Fp) (hf : f.kind = .bit) (hg : g.kind = .bit) (hcf : f.cnt = []) (hcg : g.cnt = []) :
    f.eq g = .ok (decide (f = g)) := by
  rewrite [eq_eq, if_pos (by rw [hf, hg])]
  obtain ⟨k1, b1, l1, i1, c1⟩ := f
  obtain ⟨k2, b2, l2, i2, c2⟩ := g
  subst hf hg hcf hcg
  simp only [eqKey, if_true, Prod.mk.injEq, Sum.inl.injEq, Fp.mk.injEq, true_and, and_true, and_left_comm]

/-- `==` between count / float fingerprints compares level, length, counts dictionary and class -/
theorem eq_count_iff (f g : Fp) (hf : f.kind ≠ .bit) (hg : g.kind ≠ .bit) :
    f.eq g = .ok (decide (f.level = g.level ∧ f.bits = g.bits ∧ f.cnt = g.cnt ∧ f.kind = g.kind)) := by
  rewrite [eq_eq, if_pos (by simp only [hf, hg])]
  simp only [eqKey, if_neg hf, if_neg hg, Prod.mk.injEq, Sum.inr.injEq]

/-- for well-formed count / float fingerprints (indices are the count keys) `==` decides equality of content -/
theorem eq_count_iff_wf (f g : Fp) (hf : f.kind ≠ .bit) (hg : g.kind ≠ .bit) (hwf : f.WF) (hwg : g.WF) :
    f.eq g = .ok (decide (f = g)) := by
  rewrite [eq_count_iff f g hf hg]
  refine congrArg _ (decide_eq_decide.2 ⟨?_, fun e => e ▸ ⟨rfl, rfl, rfl, rfl⟩⟩)
  rintro ⟨hl, hb, hc, hk⟩
  have hi : f.idx = g.idx := by rw [← hwf.2.2.2 hf, ← hwg.2.2.2 hg, hc]
  obtain ⟨k1, b1, l1, i1, c1⟩ := f
  cases hl; cases hb; cases hc; cases hk; cases hi
  rfl

/-- for well-formed fingerprints of one family `==` decides equality of content -/
theorem eq_iff_wf (f g : Fp) (hwf : f.WF) (hwg : g.WF) (hfam : f.kind = .bit ↔ g.kind = .bit) :
    f.eq g = .ok (decide (f = g)) := by
  by_cases hf : f.kind = .bit
  · exact eq_bit_iff f g hf (hfam.1 hf) (hwf.2.2.1 hf) (hwg.2.2.1 (hfam.1 hf))
  · exact eq_count_iff_wf f g hf (fun e => hf (hfam.2 e)) hwf hwg

/-- `==` is reflexive, for every fingerprint -/
theorem eq_refl (f : Fp) : f.eq f = .ok true :=
  (eq_true_iff f f).2 ⟨Iff.rfl, rfl⟩

/-- `==` is symmetric, errors included: a bit operand against a count operand is rejected both ways round -/
theorem eq_symm (f g : Fp) : f.eq g = g.eq f := by
  simp only [eq_eq, iff_comm (a := f.kind = .bit), eq_comm (a := eqKey f)]

/-- the two operands of a successful comparison belong to one family -/
theorem eq_ok_family (f g : Fp) (b : Bool) (h : f.eq g = .ok b) : (f.kind = .bit ↔ g.kind = .bit) :=
  ((eq_ok_iff f g b).1 h).1

/-- within a family `==` never raises -/
theorem eq_total (f g : Fp) (hfam : f.kind = .bit ↔ g.kind = .bit) : ∃ b, f.eq g = .ok b :=
  ⟨_, (eq_ok_iff f g _).2 ⟨hfam, rfl⟩⟩

/-- across the families `==` raises `InvalidFingerprintError` -/
theorem eq_cross_family (f g : Fp) (hfam : ¬ (f.kind = .bit ↔ g.kind = .bit)) : f.eq g = .error .invalidFp := by
  rw [eq_eq, if_neg hfam]

/-- `==` is transitive (the hypotheses already force all three operands into one family) -/
theorem eq_trans (f g h : Fp) (h1 : f.eq g = .ok true) (h2 : g.eq h = .ok true) : f.eq h = .ok true := by
  obtain ⟨a1, k1⟩ := (eq_true_iff f g).1 h1
  obtain ⟨a2, k2⟩ := (eq_true_iff g h).1 h2
  exact (eq_true_iff f h).2 ⟨a1.trans a2, k1.trans k2⟩

/-- `!=` is the negation of `==`, errors propagated -/
theorem ne_is_not_eq (f g : Fp) : f.ne g = (f.eq g).map not := rfl

/-- within a family `!=` never raises and is the Boolean complement of `==` -/
theorem ne_total (f g : Fp) (hfam : f.kind = .bit ↔ g.kind = .bit) :
    ∃ b, f.eq g = .ok b ∧ f.ne g = .ok (!b) := by
  obtain ⟨b, hb⟩ := eq_total f g hfam
  exact ⟨b, hb, by rewrite [ne_is_not_eq, hb]; rfl⟩

example : (⟨.bit, 8, 5, [1, 3], []⟩ : Fp).eq ⟨.bit, 8, 5, [1, 3], []⟩ = .ok true := eq_refl _
example : (⟨.bit, 8, 5, [1, 3], []⟩ : Fp).eq ⟨.bit, 8, 5, [1, 4], []⟩ = .ok false := rfl
example : (⟨.bit, 8, 5, [1, 3], []⟩ : Fp).eq ⟨.count, 8, 5, [1, 3], [(1, 1), (3, 1)]⟩ = .error .invalidFp := rfl
example : (⟨.bit, 8, 5, [1, 3], []⟩ : Fp).ne ⟨.bit, 8, 5, [1, 4], []⟩ = .ok true := rfl

/-- `Fingerprint.from_fingerprint(f)` of a bit fingerprint is an equal fingerprint -/
theorem copy_equal_bit (f : Fp) (hk : f.kind = .bit) (hwf : f.WF) : fromFingerprint .bit f = .ok f :=
  mkBit_self f hk hwf

/-- `cls.from_fingerprint(f)` of a count / float fingerprint of the same class is an equal fingerprint,
provided every stored count is positive (zero and negative counts are dropped by the copy) and is a fixed
point of the class's value setter (`int` for counts) -/
theorem copy_equal (f : Fp) (hk : f.kind ≠ .bit) (hwf : f.WF) (hpos : ∀ p ∈ f.cnt, 0 < p.2)
    (hst : ∀ p ∈ f.cnt, coerce f.kind p.2 = p.2) : fromFingerprint f.kind f = .ok f := by
  rw [fromFingerprint_eq f.kind hk f hwf hpos, map_count_self f hk hwf f.kind hst]

/-- and the copy compares equal -/
theorem copy_eq_true (f g : Fp) (hwf : f.WF) (hpos : ∀ p ∈ f.cnt, 0 < p.2)
    (hst : ∀ p ∈ f.cnt, coerce f.kind p.2 = p.2) (hc : fromFingerprint f.kind f = .ok g) :
    f.eq g = .ok true := by
  by_cases hk : f.kind = .bit
  · rewrite [hk] at hc; rewrite [copy_equal_bit f hk hwf] at hc; cases hc; exact eq_refl f
  · rewrite [copy_equal f hk hwf hpos hst] at hc; cases hc; exact eq_refl f

/-- the positivity hypothesis of `copy_equal` cannot be dropped: a stored zero count is lost by the copy -/
theorem copy_drops_zero_count :
    let f : Fp := ⟨.count, 8, 0, [1], [(1, 0)]⟩
    f.WF ∧ fromFingerprint .count f = .ok ⟨.count, 8, 0, [], []⟩ :=
  ⟨⟨by decide, by decide, by decide, fun _ => by decide⟩, rfl⟩

/-- pickling and unpickling gives back the same content -/
theorem pickle_equal (f : Fp) (hwf : f.WF) : Fp.pickleRoundTrip f = f :=
  Fp.pickleRoundTrip_of_wf f hwf

def exC : Fp := ⟨.count, 8, 5, [1, 3], [(1, 2), (3, 1)]⟩
theorem exC_wf : exC.WF := ⟨by decide, by decide, by decide, fun _ => by decide⟩
theorem exB_wf : Fp.WF ⟨.bit, 8, 5, [1, 3], []⟩ := ⟨by decide, by decide, fun _ => rfl, fun h => absurd rfl h⟩

example : fromFingerprint .count exC = .ok exC :=
  copy_equal exC (by decide) exC_wf (by decide) (by decide)

example : fromFingerprint .bit ⟨.bit, 8, 5, [1, 3], []⟩ = .ok ⟨.bit, 8, 5, [1, 3], []⟩ :=
  copy_equal_bit _ rfl exB_wf

example : exC.eq exC = .ok (decide (exC = exC)) :=
  eq_count_iff_wf exC exC (by decide) (by decide) exC_wf exC_wf

example : exC.eq exC = .ok true := eq_trans exC exC exC (eq_refl _) (eq_refl _)

example : ∃ b, exC.eq { exC with level := 2 } = .ok b ∧ exC.ne { exC with level := 2 } = .ok (!b) :=
  ne_total _ _ (by decide)

example : exC.eq ⟨.bit, 8, 5, [1, 3], []⟩ = .error .invalidFp := eq_cross_family _ _ (by decide)

/-- "copies are independent": the model is purely functional, a copy shares no state with its source, so
changing a field of the copy leaves the source equal to itself and unequal to the changed copy (bit class; the statement
about objects and what they share is `H.copy_independent` in `Props/C09Heap.lean`) -/
theorem copy_independent (f g : Fp) (hk : f.kind = .bit) (hwf : f.WF) (hc : fromFingerprint .bit f = .ok g)
    (l : Int) (hl : l ≠ f.level) : f.eq f = .ok true ∧ f.eq { g with level := l } = .ok false := by
  rewrite [copy_equal_bit f hk hwf] at hc
  cases hc
  exact ⟨eq_refl f, (eq_ok_iff f _ false).2
    ⟨Iff.rfl, (decide_eq_false fun e => hl (congrArg Prod.fst e).symm).symm⟩⟩

example : (⟨.bit, 8, 5, [1, 3], []⟩ : Fp).eq { (⟨.bit, 8, 5, [1, 3], []⟩ : Fp) with level := 2 } = .ok false :=
  (copy_independent _ _ rfl exB_wf (copy_equal_bit _ rfl exB_wf) 2 (by decide)).2

end E3fpVerif.Props.C09
