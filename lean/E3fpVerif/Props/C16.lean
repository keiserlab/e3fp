import E3fpVerif.Model.Db
import E3fpVerif.Props.C05
import E3fpVerif.Lemmas.ExceptGuard
import E3fpVerif.Lemmas.DbRows
/-!
# C16 — a database refuses incompatible input atomically

`Db.add`, `Db.setProp`, `Db.updateProps`, `Db.concat` model `add_fingerprints`, `set_prop`,
`update_props`, `concat` as the code performs them: every validation before the first mutation.  First the
three updates in place: a refusal hands the database back, and when they refuse.  Then `concat`: what it builds
(`concatKeys`, `concatRows`, `concatCol`, on which `Lemmas/DbHistOps.lean` and `Props/C05Cols.lean` rest), the
chain of its checks as one decision (`concat_eq`, `concat_eq_ok`), when it refuses, and `concat_inv`.
-/
namespace E3fpVerif.Props.C16
open E3fpVerif

/-- a refused addition leaves every component of the database (rows, names, name index,
properties) as it was -/
theorem add_atomic (db : Db) (fps : List FpIn) (h : (db.add fps).2.isSome) : (db.add fps).1 = db :=
  C05.add_refused db fps h

/-- refusal happens exactly when some fingerprint of the (non-empty) batch has the wrong level,
the wrong length, or lacks one of the database's properties — wherever in the batch it sits -/
theorem add_refuses_iff (db : Db) (fps : List FpIn) (hne : fps ≠ []) :
    (db.add fps).2.isSome ↔
      (∃ f ∈ fps, f.fp.level ≠ db.level) ∨
      (∃ f ∈ fps, f.fp.bits ≠ db.expectedBits fps) ∨
      (∃ f ∈ fps, ∃ k ∈ db.expectedProps fps, propLookup f.props k = none) := by
  -- the guards first, then what each says: a condition rewritten inside its `if` needs its `Decidable` found anew
  simp only [Db.add, ite_refuse_isSome]
  simp only [List.isEmpty_iff, hne, false_or, Db.badLevel, Db.badBits, Db.badProps,
    List.any_eq_true, bne_iff_ne, ne_eq, Option.isNone_iff_eq_none, Option.isSome_none, Bool.false_eq_true, or_false]

/-- the position of the offending fingerprint is irrelevant: any permutation of the batch that
keeps the first element is refused alike (the first element fixes the expected length of an
empty database) -/
theorem add_refusal_position_free (db : Db) (f0 : FpIn) (r₁ r₂ : List FpIn) (hp : r₁.Perm r₂) :
    (db.add (f0 :: r₁)).2.isSome = (db.add (f0 :: r₂)).2.isSome := by
  have key : ∀ r, (db.add (f0 :: r)).2.isSome = true ↔ _ := fun r => add_refuses_iff db (f0 :: r) (List.cons_ne_nil f0 r)
  have hm : ∀ f, f ∈ f0 :: r₁ ↔ f ∈ f0 :: r₂ := fun f => (hp.cons f0).mem_iff
  have hb : db.expectedBits (f0 :: r₁) = db.expectedBits (f0 :: r₂) := rfl
  have hq : db.expectedProps (f0 :: r₁) = db.expectedProps (f0 :: r₂) := rfl
  rewrite [Bool.eq_iff_iff, key r₁, key r₂, hb, hq]
  simp only [hm]

theorem updateProps_atomic (db : Db) (ps : List (String × List PVal)) (h : (db.updateProps ps).2.isSome) :
    (db.updateProps ps).1 = db := by
  unfold Db.updateProps at h ⊢
  exact ite_refuse_atomic (fun h => by cases h) h

theorem updateProps_refuses_iff (db : Db) (ps : List (String × List PVal)) :
    (db.updateProps ps).2.isSome ↔ ∃ c ∈ ps, c.2.length ≠ db.fpNames.length := by
  simp only [Db.updateProps, ite_refuse_isSome, Db.badCols, List.any_eq_true, decide_eq_true_eq, Option.isSome_none,
    Bool.false_eq_true, or_false]

theorem setProp_atomic (db : Db) (k : String) (v : List PVal) (h : (db.setProp k v).2.isSome) :
    (db.setProp k v).1 = db := by
  rewrite [C05.setProp_eq_updateProps] at h ⊢; exact updateProps_atomic db _ h

theorem setProp_refuses_iff (db : Db) (k : String) (v : List PVal) :
    (db.setProp k v).2.isSome ↔ v.length ≠ db.fpNames.length := by
  simp only [Db.setProp, ite_refuse_isSome, Option.isSome_none, Bool.false_eq_true, or_false]

/-- non-vacuity: a batch whose last fingerprint has the wrong level is refused and the (non-empty)
database keeps its row -/
example :
    let f : Fp := ⟨.bit, 8, 0, [1, 2], []⟩
    let g : Fp := ⟨.bit, 8, 1, [3], []⟩
    let db := (Db.new .bit 0 none).addOk [⟨f, some "a", []⟩]
    (db.add [⟨f, some "b", []⟩, ⟨g, some "c", []⟩]).2 = some .value ∧
      (db.add [⟨f, some "b", []⟩, ⟨g, some "c", []⟩]).1 = db := by decide +kernel

/-! ## `concat`

`Db.concat` takes its operands by value and returns a new database (or an error): the operands
are unchanged by construction, so a refusal is trivially atomic.  What remains to be said is
*when* it refuses. -/

/-- the property keys of a concatenation: every key of every operand, in order of first occurrence -/
def concatKeys (dbs : List Db) : List String :=
  dbs.foldl (fun acc d => d.props.foldl (fun acc2 c => if acc2.contains c.1 then acc2 else acc2 ++ [c.1]) acc)
    ([] : List String)

/-- the rows of a concatenation: the rows of the operands, in order -/
def concatRows (dbs : List Db) : List Row := dbs.flatMap (fun d => d.array.getD [])

/-- the column a concatenation builds for key `k`: the operands' columns (nothing for an operand
without the key), in order -/
def concatCol (dbs : List Db) (k : String) : List PVal := dbs.flatMap (fun d => (colLookup d.props k).getD [])

/-- the checks of `concat`, as one decision: which error, if any -/
theorem concat_eq (d0 : Db) (rest : List Db) :
    Db.concat (d0 :: rest) =
      if (d0 :: rest).any (fun d => d.level != d0.level) then .error .type
      else if (d0 :: rest).any (fun d => (d.array.map (fun _ => d.bits)) != (d0.array.map (fun _ => d0.bits))) then .error .type
      else if (d0 :: rest).any (fun d => d.fpType != d0.fpType) then .error .type
      else if (d0 :: rest).any (fun d => d.array.isNone) then .error .other
      else if (concatKeys (d0 :: rest)).any (fun k => decide ((concatCol (d0 :: rest) k).length ≠ (concatRows (d0 :: rest)).length))
        then .error .value
      else .ok { fpType := d0.fpType, level := d0.level, name := none, array := some (concatRows (d0 :: rest)),
                 bits := d0.bits, fpNames := (d0 :: rest).flatMap (·.fpNames),
                 namesMap := updateNamesMap [] ((d0 :: rest).flatMap (·.fpNames)) 0,
                 props := (concatKeys (d0 :: rest)).map (fun k => (k, concatCol (d0 :: rest) k)) } := by
  simp only [Db.concat, concatKeys, concatRows, concatCol, List.any_map, Function.comp_def]
  rfl

/-- the length check of `concat` compares `d.bits if d.array is not None else None`; between two
databases that have a matrix it compares the lengths -/
theorem bitsOpt_eq_iff {x y : Db} (hx : x.array ≠ none) (hy : y.array ≠ none) :
    x.array.map (fun _ => x.bits) = y.array.map (fun _ => y.bits) ↔ x.bits = y.bits := by
  cases hxa : x.array with
  | none => exact absurd hxa hx
  | some a =>
    cases hya : y.array with
    | none => exact absurd hya hy
    | some b => simp

/-- **`concat` characterised**: it accepts exactly when every operand has the first one's level,
length and kind and a matrix, and the columns built for the keys have one cell per row; what it then
returns is this database -/
theorem concat_eq_ok (d0 : Db) (rest : List Db) (d : Db) :
    Db.concat (d0 :: rest) = .ok d ↔
      (∀ x ∈ d0 :: rest, x.level = d0.level ∧ x.array ≠ none ∧ x.bits = d0.bits ∧ x.fpType = d0.fpType) ∧
      (∀ k ∈ concatKeys (d0 :: rest), (concatCol (d0 :: rest) k).length = (concatRows (d0 :: rest)).length) ∧
      d = { fpType := d0.fpType, level := d0.level, name := none, array := some (concatRows (d0 :: rest)),
            bits := d0.bits, fpNames := (d0 :: rest).flatMap (·.fpNames),
            namesMap := updateNamesMap [] ((d0 :: rest).flatMap (·.fpNames)) 0,
            props := (concatKeys (d0 :: rest)).map (fun k => (k, concatCol (d0 :: rest) k)) } := by
  rewrite [concat_eq]
  -- one conjunct per guard; each is read as `… = false`, which no condition still inside its `if` matches
  simp only [ite_error_eq_ok, Except.ok.injEq, Bool.not_eq_true, List.any_eq_false, bne_eq_false_iff_eq,
    Option.isNone_eq_false_iff, Option.isSome_iff_ne_none, decide_eq_false_iff_not, Decidable.not_not]
  constructor
  · rintro ⟨h1, h2, h3, h4, h5, h6⟩
    exact ⟨fun x hx => ⟨h1 x hx, h4 x hx, (bitsOpt_eq_iff (h4 x hx) (h4 d0 List.mem_cons_self)).1 (h2 x hx), h3 x hx⟩, h5, h6.symm⟩
  · rintro ⟨h, h5, h6⟩
    exact ⟨fun x hx => (h x hx).1, fun x hx => (bitsOpt_eq_iff (h x hx).2.1 (h d0 List.mem_cons_self).2.1).2 (h x hx).2.2.1,
      fun x hx => (h x hx).2.2.2, fun x hx => (h x hx).2.1, h5, h6.symm⟩

/-- **`concat` refuses a non-empty list of databases exactly when** some operand has a different
level, some operand has no matrix yet, some operand has a different length or a different kind, or
the operands' property columns do not add up to the number of rows (a key missing from an operand
that has rows, or an operand whose column is not as long as its matrix) -/
theorem concat_refuses (d0 : Db) (rest : List Db) :
    (∃ e, Db.concat (d0 :: rest) = .error e) ↔
      (∃ d ∈ d0 :: rest, d.level ≠ d0.level) ∨
      (∃ d ∈ d0 :: rest, d.array = none) ∨
      (∃ d ∈ d0 :: rest, d.bits ≠ d0.bits) ∨
      (∃ d ∈ d0 :: rest, d.fpType ≠ d0.fpType) ∨
      (∃ k ∈ concatKeys (d0 :: rest), (concatCol (d0 :: rest) k).length ≠ (concatRows (d0 :: rest)).length) := by
  -- refusal is the negation of the two conditions of `concat_eq_ok`, pushed through the quantifiers
  rewrite [exists_error_iff, ← not_exists]
  simp only [concat_eq_ok, exists_and_left, exists_eq, and_true, ne_eq, Classical.not_forall,
    Classical.not_and_iff_not_or_not, Classical.not_not, exists_or, exists_prop, or_assoc]

/-- which exception: a level, length or kind mismatch is a `TypeError`, a database without matrix
among otherwise compatible ones an `AttributeError` (modelled `.other`), columns that do not add
up a `ValueError` -/
theorem concat_error_code (d0 : Db) (rest : List Db) (e : Err) (h : Db.concat (d0 :: rest) = .error e) :
    e = .type ∨ e = .other ∨ e = .value := by
  rewrite [concat_eq] at h
  rcases of_ite_error_eq_error h with rfl | h
  · exact .inl rfl
  rcases of_ite_error_eq_error h with rfl | h
  · exact .inl rfl
  rcases of_ite_error_eq_error h with rfl | h
  · exact .inl rfl
  rcases of_ite_error_eq_error h with rfl | h
  · exact .inr (.inl rfl)
  rcases of_ite_error_eq_error h with rfl | h
  · exact .inr (.inr rfl)
  cases h

/-- the fields of an accepted concatenation: rows and names in operand order, the canonical index, the
by-name columns, and the first operand's level, length and kind -/
theorem concat_ok_rows (d0 : Db) (rest : List Db) (d : Db) (h : Db.concat (d0 :: rest) = .ok d) :
    d.array = some (concatRows (d0 :: rest)) ∧ d.fpNames = (d0 :: rest).flatMap (·.fpNames) ∧
      d.namesMap = updateNamesMap [] d.fpNames 0 ∧
      d.props = (concatKeys (d0 :: rest)).map (fun k => (k, concatCol (d0 :: rest) k)) ∧
      d.level = d0.level ∧ d.bits = d0.bits ∧ d.fpType = d0.fpType := by
  obtain ⟨_, _, rfl⟩ := (concat_eq_ok d0 rest d).1 h
  exact ⟨rfl, rfl, rfl, rfl, rfl, rfl, rfl⟩

theorem concat_ok_fields (dbs : List Db) (d : Db) (h : Db.concat dbs = .ok d) :
    d.array = some (concatRows dbs) ∧ d.fpNames = dbs.flatMap (·.fpNames) ∧
      d.namesMap = updateNamesMap [] d.fpNames 0 ∧ d.props = (concatKeys dbs).map (fun k => (k, concatCol dbs k)) := by
  cases dbs with
  | nil => cases h
  | cons d0 rest =>
    obtain ⟨h1, h2, h3, h4, _⟩ := concat_ok_rows d0 rest d h
    exact ⟨h1, h2, h3, h4⟩

theorem concat_nil : Db.concat [] = .error .index := rfl

theorem concatKeys_eq_dedupKeys (dbs : List Db) :
    concatKeys dbs = dedupKeys (dbs.flatMap (fun d => d.props.map Prod.fst)) := by
  simp only [concatKeys, dedupKeys, List.foldl_flatMap, List.foldl_map]

theorem concatKeys_nodup (dbs : List Db) : (concatKeys dbs).Nodup := by
  rewrite [concatKeys_eq_dedupKeys]; exact dedupKeys_nodup _

theorem mem_concatKeys (dbs : List Db) (k : String) :
    k ∈ concatKeys dbs ↔ ∃ d ∈ dbs, k ∈ d.props.map Prod.fst := by
  rw [concatKeys_eq_dedupKeys, mem_dedupKeys, List.mem_flatMap]

/-- for an operand satisfying the invariant, its contribution to column `k` has one cell per row
if it has the key, and no cell otherwise -/
theorem col_contrib (d : Db) (hi : d.Inv) (k : String) :
    ((colLookup d.props k).getD []).length = if k ∈ d.props.map Prod.fst then d.fpNum else 0 := by
  rewrite [colLookup_eq_lookup]
  by_cases hk : k ∈ d.props.map Prod.fst
  · obtain ⟨v, hv⟩ := Option.isSome_iff_exists.1 (lookup_isSome_iff.2 hk)
    simp [hk, hv, hi.col_length _ (mem_of_lookup_eq_some hv)]
  · simp [hk, lookup_eq_none_of_not_mem hk]

theorem concat_lengths (k : String) (dbs : List Db) (hi : ∀ d ∈ dbs, d.Inv) :
    (concatCol dbs k).length ≤ (concatRows dbs).length ∧
      ((concatCol dbs k).length = (concatRows dbs).length ↔
        ∀ d ∈ dbs, d.fpNum = 0 ∨ k ∈ d.props.map Prod.fst) := by
  have hd : ∀ d ∈ dbs, ((colLookup d.props k).getD []).length ≤ (d.array.getD []).length ∧
      (((colLookup d.props k).getD []).length = (d.array.getD []).length ↔
        d.fpNum = 0 ∨ k ∈ d.props.map Prod.fst) := by
    intro d hd
    rewrite [col_contrib d (hi d hd) k, ← fpNum_eq]
    by_cases hk : k ∈ d.props.map Prod.fst
    · simp [hk]
    · simp [hk, eq_comm]
  obtain ⟨h1, h2⟩ := flatMap_length_le_and_eq_iff (fun d : Db => (colLookup d.props k).getD []) (fun d => d.array.getD []) dbs
    (fun d hd' => (hd d hd').1)
  exact ⟨h1, h2.trans (forall_congr' fun d => forall_congr' fun hd' => (hd d hd').2)⟩

/-- **refusal of `concat` for databases satisfying the invariant**: besides the level / matrix /
length / kind mismatches, exactly when some operand that has rows lacks a property column another
operand has -/
theorem concat_refuses_inv (d0 : Db) (rest : List Db) (hi : ∀ d ∈ d0 :: rest, d.Inv) :
    (∃ e, Db.concat (d0 :: rest) = .error e) ↔
      (∃ d ∈ d0 :: rest, d.level ≠ d0.level) ∨
      (∃ d ∈ d0 :: rest, d.array = none) ∨
      (∃ d ∈ d0 :: rest, d.bits ≠ d0.bits) ∨
      (∃ d ∈ d0 :: rest, d.fpType ≠ d0.fpType) ∨
      (∃ d ∈ d0 :: rest, ∃ d' ∈ d0 :: rest, ∃ k ∈ d'.props.map Prod.fst,
        d.fpNum > 0 ∧ k ∉ d.props.map Prod.fst) := by
  rewrite [concat_refuses]
  -- only the last alternative differs: a column is short exactly when an operand with rows lacks its key
  refine or_congr_right (or_congr_right (or_congr_right (or_congr_right ?_)))
  simp only [mem_concatKeys, ne_eq, fun k => (concat_lengths k (d0 :: rest) hi).2, Classical.not_forall, not_or]
  constructor
  · rintro ⟨k, ⟨d', hd', hk⟩, d, hd, h0, hnk⟩
    exact ⟨d, hd, d', hd', k, hk, Nat.pos_of_ne_zero h0, hnk⟩
  · rintro ⟨d, hd, d', hd', k, hk, hpos, hnk⟩
    exact ⟨k, ⟨d', hd', hk⟩, d, hd, Nat.ne_of_gt hpos, hnk⟩

theorem concat_inv (d0 : Db) (rest : List Db) (d : Db) (hi : ∀ d ∈ d0 :: rest, d.Inv)
    (h : Db.concat (d0 :: rest) = .ok d) : d.Inv := by
  obtain ⟨_, hcols, rfl⟩ := (concat_eq_ok d0 rest d).1 h
  rewrite [C05.inv_some rfl]
  refine ⟨?_, ?_, rfl, ?_⟩
  · simp only [concatRows, List.length_flatMap]
    exact congrArg List.sum (List.map_congr_left fun x hx => by rw [(hi x hx).names_length, fpNum_eq])
  · intro c hc
    obtain ⟨k, hk, rfl⟩ := List.mem_map.1 hc
    exact hcols k hk
  · simpa [List.map_map, Function.comp_def] using concatKeys_nodup (d0 :: rest)

/-- non-vacuity of `concat_refuses` (both directions): two compatible one-row databases are
concatenated, rows and names in order; a database of another level, or a fresh database without
matrix, is refused -/
example :
    let f : Fp := ⟨.bit, 8, 0, [1, 2], []⟩
    let g : Fp := ⟨.bit, 8, 1, [3], []⟩
    let da := (Db.new .bit 0 none).addOk [⟨f, some "a", [("w", .int 1)]⟩]
    let db := (Db.new .bit 0 none).addOk [⟨f, some "b", [("w", .int 2)]⟩]
    let dc := (Db.new .bit 1 none).addOk [⟨g, some "c", [("w", .int 3)]⟩]
    let dn := (Db.new .bit 0 none).addOk [⟨f, some "d", []⟩]
    ((Db.concat [da, db]).toOption.map (fun d => (d.fpNames, d.props, d.fpNum))) =
        some ([some "a", some "b"], [("w", [.int 1, .int 2])], 2) ∧
      (Db.concat [da, dc]).toOption = none ∧ (∃ d ∈ [da, dc], d.level ≠ da.level) ∧
      (Db.concat [da, Db.new .bit 0 none]).toOption = none ∧ (∃ d ∈ [da, Db.new .bit 0 none], d.array = none) ∧
      (Db.concat [da, dn]).toOption = none ∧
      (∃ k ∈ concatKeys [da, dn], (concatCol [da, dn] k).length ≠ (concatRows [da, dn]).length) := by decide +kernel

/-- non-vacuity of `concat_refuses_inv`, `concat_inv`: the operands satisfy the invariant; the one
with a row but without the column `"w"` is the reason for the refusal -/
example :
    let f : Fp := ⟨.bit, 8, 0, [1, 2], []⟩
    let da := (Db.new .bit 0 none).addOk [⟨f, some "a", [("w", .int 1)]⟩]
    let dn := (Db.new .bit 0 none).addOk [⟨f, some "d", []⟩]
    (∀ d ∈ [da, dn], d.Inv) ∧ (∀ d ∈ [da, da], d.Inv) ∧ (Db.concat [da, da]).toOption.isSome ∧
      (dn.fpNum > 0 ∧ "w" ∈ da.props.map Prod.fst ∧ "w" ∉ dn.props.map Prod.fst) := by
  have inv : ∀ fps, ((Db.new .bit 0 none).addOk fps).Inv := fun fps => C05.inv_addOk _ fps (C05.inv_new _ _ _)
  exact ⟨by simp [inv], by simp [inv], by decide +kernel⟩

end E3fpVerif.Props.C16
