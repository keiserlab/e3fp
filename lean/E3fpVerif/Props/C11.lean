import E3fpVerif.Model.Fprint
import E3fpVerif.Lemmas.Uniq
import E3fpVerif.Lemmas.FpAux
/-!
# C11 — the operators implement set algebra and pointwise arithmetic

Set operators on bit fingerprints are read through `mem_setOpIdx`.  Each arithmetic operator (`addSub`, `mul`,
`div`, `fprint.add`) is first put in closed form as a tabulated fingerprint `Fp.tab … u v`; its count at every
position is then `v`, because `v` vanishes wherever all operands do (`Fp.tab_count_of_zero`).  `//` is read off its
definition (`floordiv_count`); `fprint.mean` (`meanBatch`) has no statement here.
-/
namespace E3fpVerif.Props.C11
open E3fpVerif

/-- the set-theoretic meaning of each operator -/
def memSpec (op : SetOp) (a b : List Nat) (x : Nat) : Prop :=
  match op with
  | .or | .add => x ∈ a ∨ x ∈ b
  | .and => x ∈ a ∧ x ∈ b
  | .sub => x ∈ a ∧ x ∉ b
  | .xor => (x ∈ a ∧ x ∉ b) ∨ (x ∈ b ∧ x ∉ a)

/-- membership in the result of each of the five operators (`|`, `+`: union; `&`: intersection; `-`:
difference; `^`: symmetric difference) -/
theorem mem_setOpIdx (op : SetOp) (a b : List Nat) (x : Nat) :
    x ∈ setOpIdx op a b ↔ memSpec op a b x := by
  cases op <;> simp [setOpIdx, memSpec, mem_uniq]

theorem setOpIdx_subset (op : SetOp) (a b : List Nat) (x : Nat) (h : x ∈ setOpIdx op a b) :
    x ∈ a ∨ x ∈ b := by
  rewrite [mem_setOpIdx] at h
  cases op <;> simp only [memSpec] at h
  · exact h
  · exact h
  · exact Or.inl h.1
  · exact Or.inl h.1
  · rcases h with h | h
    · exact Or.inl h.1
    · exact Or.inr h.1

/-- on ascending operands the result is ascending (so `numpy.unique` in the constructor is the identity) -/
theorem setOpIdx_strictAsc (op : SetOp) (a b : List Nat) (ha : StrictAsc a) :
    StrictAsc (setOpIdx op a b) := by
  cases op
  · exact strictAsc_uniq _
  · exact strictAsc_uniq _
  · exact List.Pairwise.filter _ ha
  · exact List.Pairwise.filter _ ha
  · exact strictAsc_uniq _

/-- the set operators on bit fingerprints of equal length succeed; the result is a well-formed bit
fingerprint of the same length and level -1 whose index array is ascending and has exactly the
members the set operation prescribes -/
theorem setOp_ok (op : SetOp) (f g : Fp) (hf : f.WF) (hg : g.WF) (hb : f.bits = g.bits) :
    ∃ h, Fp.setOp op f g = .ok h ∧ h.WF ∧ h.bits = f.bits ∧ h.kind = .bit ∧ h.level = -1 ∧
      h.idx = setOpIdx op f.idx g.idx ∧ StrictAsc h.idx ∧
      ∀ x, x ∈ h.idx ↔ memSpec op f.idx g.idx x := by
  have hlt : ∀ i ∈ setOpIdx op f.idx g.idx, i < f.bits := by
    intro i hi
    rcases setOpIdx_subset op _ _ i hi with h | h
    · exact hf.2.1 i h
    · rewrite [hb]; exact hg.2.1 i h
  have hasc := setOpIdx_strictAsc op f.idx g.idx hf.1
  refine ⟨⟨.bit, f.bits, -1, setOpIdx op f.idx g.idx, []⟩, ?_, ⟨hasc, hlt, fun _ => rfl, fun h => absurd rfl h⟩,
    rfl, rfl, rfl, rfl, hasc, mem_setOpIdx op _ _⟩
  unfold Fp.setOp
  rw [if_neg (Decidable.not_not.2 hb), mkBit_eq _ _ _ hlt, uniq_of_strictAsc _ hasc]

/-- the result of a successful set operator, whichever way it was obtained -/
theorem setOp_spec (op : SetOp) (f g h : Fp) (hf : f.WF) (hg : g.WF) (hb : f.bits = g.bits)
    (hr : Fp.setOp op f g = .ok h) :
    h.WF ∧ h.bits = f.bits ∧ h.kind = .bit ∧ StrictAsc h.idx ∧
      ∀ x, x ∈ h.idx ↔ memSpec op f.idx g.idx x := by
  obtain ⟨h', hr', hw, hbits, hk, _, _, hs, hm⟩ := setOp_ok op f g hf hg hb
  rewrite [hr] at hr'
  cases hr'
  exact ⟨hw, hbits, hk, hs, hm⟩

example : Fp.setOp .xor ⟨.bit, 8, 5, [1, 3], []⟩ ⟨.bit, 8, 5, [3, 4], []⟩ = .ok ⟨.bit, 8, -1, [1, 4], []⟩ := by
  rfl

example : ∃ h, Fp.setOp .sub ⟨.bit, 8, 5, [1, 3], []⟩ ⟨.bit, 8, 5, [3, 4], []⟩ = .ok h ∧ h.WF ∧
    ∀ x, x ∈ h.idx ↔ x ∈ [1, 3] ∧ x ∉ [3, 4] := by
  obtain ⟨h, h1, h2, _, _, _, _, _, h3⟩ := setOp_ok .sub ⟨.bit, 8, 5, [1, 3], []⟩ ⟨.bit, 8, 5, [3, 4], []⟩
    ⟨by decide, by decide, fun _ => rfl, fun h => absurd rfl h⟩
    ⟨by decide, by decide, fun _ => rfl, fun h => absurd rfl h⟩ rfl
  exact ⟨h, h1, h2, h3⟩

/-- operands of different length are rejected -/
theorem setOp_length_mismatch (op : SetOp) (f g : Fp) (h : f.bits ≠ g.bits) :
    Fp.setOp op f g = .error .bitsValue := by
  unfold Fp.setOp
  rw [if_pos h]

example : Fp.setOp .and ⟨.bit, 8, 5, [1, 3], []⟩ ⟨.bit, 16, 5, [3, 4], []⟩ = .error .bitsValue :=
  setOp_length_mismatch _ _ _ (by decide)

theorem addSub_eq (sign : Int) (f g : Fp) (hg : g.kind ≠ .bit) (hb : f.bits = g.bits) :
    Fp.addSub sign f g = .ok (Fp.tab (resultKind f g) f.bits (resultLevel f g)
      ((uniq (f.idx ++ g.idx)).filter
        (fun i => sign = 1 || decide (coerce (resultKind f g) (f.count i + sign * g.count i) ≠ 0)))
      (fun i => coerce (resultKind f g) (f.count i + sign * g.count i))) := by
  unfold Fp.addSub
  split
  · rename_i hk; exact absurd hk hg
  · rewrite [if_neg (Decidable.not_not.2 hb)]; rfl

theorem resultKind_ne_bit (f g : Fp) (hf : f.kind ≠ .bit) : resultKind f g ≠ .bit := by
  unfold resultKind; split
  · simp
  · exact hf

/-- general form: the result of `f + sign·g` has the result class and, at every position, the coerced
pointwise value -/
theorem addSub_count_general (sign : Int) (f g h : Fp) (hf : f.WF) (hg : g.WF)
    (hfk : f.kind ≠ .bit) (hgk : g.kind ≠ .bit) (hb : f.bits = g.bits)
    (hr : Fp.addSub sign f g = .ok h) (i : Nat) :
    h.kind = resultKind f g ∧ h.count i = coerce (resultKind f g) (f.count i + sign * g.count i) := by
  rewrite [addSub_eq sign f g hgk hb] at hr
  cases hr
  refine ⟨rfl, Fp.tab_count_of_zero _ _ _ _ _ (resultKind_ne_bit f g hfk) i fun hi => ?_⟩
  -- off the index array: either the position was dropped because its value is 0, or neither operand has it
  rewrite [List.mem_filter, mem_uniq, List.mem_append] at hi
  by_cases hm : i ∈ f.idx ∨ i ∈ g.idx
  · exact Decidable.by_contra fun h => hi ⟨hm, Bool.or_eq_true_iff.2 (.inr (decide_eq_true h))⟩
  · rewrite [not_or] at hm
    rw [Fp.count_of_not_mem f hf i hm.1, Fp.count_of_not_mem g hg i hm.2, Rat.mul_zero, Rat.add_zero,
      coerce_zero]

theorem add_neg_one_mul (a b : Rat) : a + ((-1 : Int) : Rat) * b = a - b := by
  rw [Rat.sub_eq_add_neg, Rat.intCast_neg, Rat.neg_mul, Rat.intCast_one, Rat.one_mul]

/-- `f + g` is pointwise addition -/
theorem addSub_count (f g h : Fp) (hf : f.WF) (hg : g.WF)
    (hfk : f.kind ≠ .bit) (hgk : g.kind ≠ .bit) (hb : f.bits = g.bits)
    (hr : Fp.addSub 1 f g = .ok h) (i : Nat) :
    h.kind = resultKind f g ∧ h.count i = coerce (resultKind f g) (f.count i + g.count i) := by
  have := addSub_count_general 1 f g h hf hg hfk hgk hb hr i
  rwa [Rat.intCast_one, Rat.one_mul] at this

/-- `f - g` is pointwise subtraction (positions whose difference is 0 are dropped from the index array,
so their count reads 0 again) -/
theorem addSub_count_sub (f g h : Fp) (hf : f.WF) (hg : g.WF)
    (hfk : f.kind ≠ .bit) (hgk : g.kind ≠ .bit) (hb : f.bits = g.bits)
    (hr : Fp.addSub (-1) f g = .ok h) (i : Nat) :
    h.kind = resultKind f g ∧ h.count i = coerce (resultKind f g) (f.count i - g.count i) := by
  have := addSub_count_general (-1) f g h hf hg hfk hgk hb hr i
  rwa [add_neg_one_mul] at this

/-- the dropped positions of a difference are exactly the cancelling ones -/
theorem addSub_sub_idx (f g h : Fp) (hgk : g.kind ≠ .bit) (hb : f.bits = g.bits)
    (hr : Fp.addSub (-1) f g = .ok h) (i : Nat) :
    i ∈ h.idx ↔ (i ∈ f.idx ∨ i ∈ g.idx) ∧ coerce (resultKind f g) (f.count i - g.count i) ≠ 0 := by
  rewrite [addSub_eq (-1) f g hgk hb] at hr; cases hr
  rewrite [Fp.tab_idx, List.mem_filter, mem_uniq, List.mem_append, add_neg_one_mul]
  simp

/-- a sum keeps every position of either operand -/
theorem addSub_add_idx (f g h : Fp) (hgk : g.kind ≠ .bit) (hb : f.bits = g.bits)
    (hr : Fp.addSub 1 f g = .ok h) : h.idx = uniq (f.idx ++ g.idx) := by
  rewrite [addSub_eq 1 f g hgk hb] at hr; cases hr
  exact List.filter_eq_self.2 fun _ _ => rfl

/-- the result of `f ± g` is well formed -/
theorem addSub_wf (sign : Int) (f g h : Fp) (hf : f.WF) (hg : g.WF) (hgk : g.kind ≠ .bit)
    (hfk : f.kind ≠ .bit) (hb : f.bits = g.bits) (hr : Fp.addSub sign f g = .ok h) : h.WF := by
  rewrite [addSub_eq sign f g hgk hb] at hr; cases hr
  refine Fp.tab_wf _ _ _ _ _ (resultKind_ne_bit f g hfk) (List.Pairwise.filter _ (strictAsc_uniq _)) fun i hi => ?_
  rewrite [List.mem_filter, mem_uniq, List.mem_append] at hi
  rcases hi.1 with h | h
  · exact hf.2.1 i h
  · rewrite [hb]; exact hg.2.1 i h

/-- operands of different length are rejected -/
theorem addSub_length_mismatch (sign : Int) (f g : Fp) (hgk : g.kind ≠ .bit) (h : f.bits ≠ g.bits) :
    Fp.addSub sign f g = .error .bitsValue := by
  unfold Fp.addSub
  split
  · rename_i hk; exact absurd hk hgk
  · rw [if_pos h]

/-- a bit fingerprint on the right of `+` / `-` is rejected -/
theorem addSub_bit_operand_rejected (sign : Int) (f g : Fp) (hgk : g.kind = .bit) :
    Fp.addSub sign f g = .error .invalidFp := by
  unfold Fp.addSub
  rw [hgk]

def exF : Fp := ⟨.count, 8, 5, [1, 3], [(1, 2), (3, 1)]⟩
def exG : Fp := ⟨.count, 8, 5, [3, 4], [(3, 1), (4, 5)]⟩

theorem exF_wf : exF.WF := ⟨by decide, by decide, by decide, fun _ => by decide⟩
theorem exG_wf : exG.WF := ⟨by decide, by decide, by decide, fun _ => by decide⟩

example : ∃ h, Fp.addSub 1 exF exG = .ok h ∧ h.count 3 = coerce .count (exF.count 3 + exG.count 3) :=
  have hr := addSub_eq 1 exF exG (by decide) rfl
  ⟨_, hr, (addSub_count exF exG _ exF_wf exG_wf (by decide) (by decide) rfl hr 3).2⟩

example : ∃ h, Fp.addSub (-1) exF exG = .ok h ∧ h.count 3 = coerce .count (exF.count 3 - exG.count 3) :=
  have hr := addSub_eq (-1) exF exG (by decide) rfl
  ⟨_, hr, (addSub_count_sub exF exG _ exF_wf exG_wf (by decide) (by decide) rfl hr 3).2⟩

example : Fp.addSub 1 exF ⟨.count, 16, 5, [], []⟩ = .error .bitsValue :=
  addSub_length_mismatch _ _ _ (by decide) (by decide)

example : Fp.addSub 1 exF ⟨.bit, 8, 5, [1], []⟩ = .error .invalidFp :=
  addSub_bit_operand_rejected _ _ _ rfl

theorem mul_eq (f : Fp) (x : Rat) (hk : f.kind ≠ .bit) (hwf : f.WF) (hpos : ∀ p ∈ f.cnt, 0 < p.2) :
    f.mul x = .ok (Fp.tab f.kind f.bits f.level f.idx (fun i => coerce f.kind (f.count i * x))) := by
  unfold Fp.mul
  rewrite [fromFingerprint_eq f.kind hk f hwf hpos]
  rfl

/-- `f * x` multiplies every count, through the class's value setter -/
theorem mul_count (f h : Fp) (x : Rat) (hk : f.kind ≠ .bit) (hwf : f.WF) (hpos : ∀ p ∈ f.cnt, 0 < p.2)
    (hr : f.mul x = .ok h) (i : Nat) :
    h.idx = f.idx ∧ h.kind = f.kind ∧ h.count i = coerce f.kind (f.count i * x) := by
  rewrite [mul_eq f x hk hwf hpos] at hr
  cases hr
  refine ⟨rfl, rfl, Fp.tab_count_of_zero _ _ _ _ _ hk i fun hi => ?_⟩
  rw [Fp.count_of_not_mem f hwf i hi, Rat.zero_mul, coerce_zero]

theorem div_eq (f : Fp) (x : Rat) (hx : x ≠ 0) (hwf : f.WF) (hpos : ∀ p ∈ f.cnt, 0 < p.2) :
    f.div x = .ok (Fp.tab .float f.bits f.level f.idx (fun i => f.count i / x)) := by
  unfold Fp.div
  rewrite [fromFingerprint_eq .float (by simp) f hwf hpos]
  simp only [if_neg hx]
  rfl

/-- `f / x` divides every count exactly and is always a float fingerprint -/
theorem div_count (f h : Fp) (x : Rat) (hx : x ≠ 0) (hwf : f.WF) (hpos : ∀ p ∈ f.cnt, 0 < p.2)
    (hr : f.div x = .ok h) (i : Nat) :
    h.idx = f.idx ∧ h.kind = .float ∧ h.count i = f.count i / x := by
  rewrite [div_eq f x hx hwf hpos] at hr
  cases hr
  refine ⟨rfl, rfl, Fp.tab_count_of_zero _ _ _ _ _ (by decide) i fun hi => ?_⟩
  rw [Fp.count_of_not_mem f hwf i hi, Rat.div_def, Rat.zero_mul]

/-- division by zero raises -/
theorem div_zero (f : Fp) : f.div 0 = .error .zeroDiv := by
  unfold Fp.div
  rewrite [if_pos rfl]
  rfl

theorem floordiv_zero (f : Fp) : f.floordiv 0 = .error .zeroDiv := by
  unfold Fp.floordiv
  rewrite [if_pos rfl]
  rfl

/-- `f // x` keeps the positions whose count reaches `x` and stores `int(count / x)` there -/
theorem floordiv_count (f h : Fp) (x : Rat) (hx : x ≠ 0) (hwf : f.WF) (hr : f.floordiv x = .ok h) (i : Nat) :
    h.kind = .count ∧ (i ∈ h.idx ↔ i ∈ f.idx ∧ x ≤ f.count i) ∧
      h.count i = if x ≤ f.count i then truncQ (f.count i / x) else 0 := by
  unfold Fp.floordiv at hr
  simp only [if_neg hx] at hr
  cases hr
  have hmem : i ∈ f.idx.filter (fun i => decide (f.count i ≥ x)) ↔ i ∈ f.idx ∧ x ≤ f.count i := by
    rw [List.mem_filter, decide_eq_true_eq]
  refine ⟨rfl, hmem, (Fp.tab_count .count _ _ _ (fun i => truncQ (f.count i / x)) (by decide) i).trans ?_⟩
  by_cases hm : i ∈ f.idx
  · simp only [hmem, hm, true_and]
  · rw [if_neg fun h => hm (hmem.1 h).1, Fp.count_of_not_mem f hwf i hm, Rat.div_def, Rat.zero_mul,
      show truncQ 0 = 0 from coerce_zero .count, ite_self]

example : ∃ h, exF.mul 3 = .ok h ∧ h.count 1 = coerce .count (exF.count 1 * 3) :=
  have hpos : ∀ p ∈ exF.cnt, 0 < p.2 := by decide
  have hr := mul_eq exF 3 (by decide) exF_wf hpos
  ⟨_, hr, (mul_count exF _ 3 (by decide) exF_wf hpos hr 1).2.2⟩

/-- the kind `fprint.add` gives its result when no weights are passed -/
def batchKind (fs : List Fp) : Kind := if fs.any (fun f => f.kind == .float) then Kind.float else Kind.count

theorem addBatch_none_eq (f0 : Fp) (rest : List Fp) :
    addBatch (f0 :: rest) none = .ok (some
      (Fp.tab (batchKind (f0 :: rest)) f0.bits f0.level (uniq ((f0 :: rest).flatMap (·.idx)))
        (fun i => coerce (batchKind (f0 :: rest)) (sumQ ((f0 :: rest).map (·.count i)))))) := rfl

theorem batchKind_ne_bit (fs : List Fp) : batchKind fs ≠ .bit := by
  unfold batchKind; split <;> simp

theorem count_eq_zero_of_not_mem_flatMap (fs : List Fp) (hwf : ∀ f ∈ fs, f.WF) (i : Nat)
    (hi : i ∉ uniq (fs.flatMap (·.idx))) : ∀ f ∈ fs, f.count i = 0 := by
  intro f hf
  rewrite [mem_uniq, List.mem_flatMap] at hi
  exact Fp.count_of_not_mem f (hwf f hf) i (fun hm => hi ⟨f, hf, hm⟩)

/-- unweighted `fprint.add`: every position holds the (coerced) sum of the operands' counts there -/
theorem addBatch_count (fs : List Fp) (h : Fp) (hwf : ∀ f ∈ fs, f.WF)
    (hr : addBatch fs none = .ok (some h)) (i : Nat) :
    h.kind = batchKind fs ∧ h.count i = coerce (batchKind fs) (sumQ (fs.map (·.count i))) := by
  cases fs with
  | nil => cases hr
  | cons f0 rest =>
    rewrite [addBatch_none_eq] at hr
    cases hr
    refine ⟨rfl, Fp.tab_count_of_zero _ _ _ _ _ (batchKind_ne_bit _) i fun hi => ?_⟩
    rw [sumQ_map_eq_zero _ _ (count_eq_zero_of_not_mem_flatMap _ hwf i hi), coerce_zero]

/-- with a float operand present the sums are stored as they are -/
theorem addBatch_count_float (fs : List Fp) (h : Fp) (hwf : ∀ f ∈ fs, f.WF)
    (hfl : fs.any (fun f => f.kind == .float) = true)
    (hr : addBatch fs none = .ok (some h)) (i : Nat) :
    h.kind = .float ∧ h.count i = sumQ (fs.map (·.count i)) := by
  have := addBatch_count fs h hwf hr i
  rwa [show batchKind fs = .float from if_pos hfl] at this

/-- with integral counts throughout (bit and count operands built by the constructors) the sums are exact -/
theorem addBatch_count_integral (fs : List Fp) (h : Fp) (hwf : ∀ f ∈ fs, f.WF)
    (hint : ∀ f ∈ fs, ∀ j, ∃ z : Int, f.count j = (z : Rat))
    (hr : addBatch fs none = .ok (some h)) (i : Nat) :
    h.count i = sumQ (fs.map (·.count i)) := by
  rewrite [(addBatch_count fs h hwf hr i).2]
  obtain ⟨z, hz⟩ := sumQ_isInt (fs.map (·.count i)) (by
    intro x hx
    obtain ⟨f, hf, rfl⟩ := List.mem_map.1 hx
    exact hint f hf i)
  rw [hz, coerce_intCast]

/-- a weight list of the wrong length is rejected -/
theorem addBatch_weights_mismatch (f0 : Fp) (rest : List Fp) (w : List Rat) (h : w.length ≠ (f0 :: rest).length) :
    addBatch (f0 :: rest) (some w) = .error .value :=
  if_pos h

/-- the support of the sum is the union of the supports, and the result is well formed -/
theorem addBatch_idx (fs : List Fp) (h : Fp) (hwf : ∀ f ∈ fs, f.WF) (hbits : ∀ f ∈ fs, f.bits = (fs.headD default).bits)
    (w : Option (List Rat)) (hr : addBatch fs w = .ok (some h)) :
    h.idx = uniq (fs.flatMap (·.idx)) ∧ h.WF := by
  cases fs with
  | nil => cases hr
  | cons f0 rest =>
    have hlt : ∀ i ∈ uniq ((f0 :: rest).flatMap (·.idx)), i < f0.bits := by
      intro i hi
      rewrite [mem_uniq, List.mem_flatMap] at hi
      obtain ⟨f, hf, hm⟩ := hi
      exact (hbits f hf) ▸ (hwf f hf).2.1 i hm
    cases w with
    | none =>
      rewrite [addBatch_none_eq] at hr
      cases hr
      exact ⟨rfl, Fp.tab_wf _ _ _ _ _ (batchKind_ne_bit _) (strictAsc_uniq _) hlt⟩
    | some w =>
      obtain ⟨_, hr⟩ := ite_error_eq_ok.1 hr
      cases hr
      exact ⟨rfl, Fp.tab_wf .float _ _ _ _ (by decide) (strictAsc_uniq _) hlt⟩

/-- weighted `fprint.add`: every position holds the weighted sum of the operands' counts -/
theorem addBatch_count_weighted (fs : List Fp) (w : List Rat) (h : Fp) (hwf : ∀ f ∈ fs, f.WF)
    (hr : addBatch fs (some w) = .ok (some h)) (i : Nat) :
    h.kind = .float ∧ h.count i = sumQ ((fs.zip w).map (fun p => p.1.count i * p.2)) := by
  cases fs with
  | nil => cases hr
  | cons f0 rest =>
    obtain ⟨_, hr⟩ := ite_error_eq_ok.1 hr
    cases hr
    refine ⟨rfl, Fp.tab_count_of_zero .float _ _ _ _ (by decide) i fun hi => sumQ_map_eq_zero _ _ fun p hp => ?_⟩
    rw [count_eq_zero_of_not_mem_flatMap _ hwf i hi p.1 (List.of_mem_zip hp).1, Rat.zero_mul]

example : ∃ h, addBatch [exF, exG] none = .ok (some h) ∧ h.count 3 = sumQ ([exF, exG].map (·.count 3)) :=
  ⟨_, rfl, addBatch_count_integral [exF, exG] _
    (List.forall_mem_cons.2 ⟨exF_wf, List.forall_mem_singleton.2 exG_wf⟩)
    (List.forall_mem_cons.2 ⟨Fp.count_isInt exF (by decide), List.forall_mem_singleton.2 (Fp.count_isInt exG (by decide))⟩)
    rfl 3⟩

def exH : Fp := ⟨.float, 8, 5, [2], [(2, 1 / 2)]⟩
theorem exH_wf : exH.WF := ⟨by decide, by decide, by decide, fun _ => by decide⟩

theorem ex_all_wf : ∀ f ∈ [exF, exH], f.WF :=
  List.forall_mem_cons.2 ⟨exF_wf, List.forall_mem_singleton.2 exH_wf⟩

example : ∃ h, addBatch [exF, exH] none = .ok (some h) ∧ h.kind = .float ∧
    h.count 2 = sumQ ([exF, exH].map (·.count 2)) :=
  ⟨_, rfl, addBatch_count_float [exF, exH] _ ex_all_wf rfl rfl 2⟩

example : ∃ h, addBatch [exF, exH] (some [2, 3]) = .ok (some h) ∧
    h.count 2 = sumQ (([exF, exH].zip [2, 3]).map (fun p => p.1.count 2 * p.2)) ∧ h.WF :=
  have hr : addBatch [exF, exH] (some [2, 3]) = .ok (some _) := rfl
  ⟨_, hr, (addBatch_count_weighted [exF, exH] [2, 3] _ ex_all_wf hr 2).2,
    (addBatch_idx [exF, exH] _ ex_all_wf (List.forall_mem_cons.2 ⟨rfl, List.forall_mem_singleton.2 rfl⟩) _ hr).2⟩

example : addBatch [exF, exH] (some [2]) = .error .value := addBatch_weights_mismatch _ _ _ (by decide)

end E3fpVerif.Props.C11
