import E3fpVerif.Model.Metrics
import E3fpVerif.Model.MetricsDispatch
import E3fpVerif.Lemmas.MergeSD
import E3fpVerif.Lemmas.Binary
import E3fpVerif.Lemmas.Dense
import E3fpVerif.Lemmas.FpRows
import E3fpVerif.Lemmas.Dispatch
import E3fpVerif.Props.C05
/-!
# C06 — similarity measures equal their definitions in every representation

First the row measures (`arr*`) and the fingerprint measures (`fp*`) against the definitions (`*Def`), each
through the statistics it is made of (column sums, `X·Yᵀ`, row sums, supports); then the public dispatch:
every calling form with a database operand is the matrix of the row measure over the operands' rows
(`dispatch_fp_db`, `dispatch_db_fp`, `dispatch_db_db`), hence the definition on the vectors the operands stand for
(`dispatch_eq_def`); the two-fingerprint form is the definition on the count vectors (`simFp_eq_def`); so all forms
agree (`dispatch_routes`, `routes_agree`).  Lemmas: namespace `E3fpVerif.C06L`; a theorem here that bears the name of
a `C06L` lemma is that lemma stated for the property (`dotQ_binary`, `rowSum_binary`: with `rowSupport` where the
lemma has `rowCols`).  As real numbers: `Props/C06Real.lean`.
-/
namespace E3fpVerif.Props.C06
open E3fpVerif E3fpVerif.C06L

-- `Model/DbHist.lean` declares a second `E3fpVerif.castRow`; inside `namespace E3fpVerif…` it would win over the
-- opened `C06L.castRow` wherever that file is imported
export E3fpVerif.C06L (castRow)

/-- a zero denominator scores 0 (never NaN, never an error) in the generated ratio expressions -/
theorem divNan_zero (a : Rat) : Gen.divNan a 0 = 0 := if_pos rfl

/-! ## the sparse Soergel merge kernel -/

/-- recursive specification: on rows with strictly ascending columns
and non-negative values, `mergeSD x y = (Σ_{i∈cols} |x_i − y_i|, Σ_{i∈cols} max x_i y_i)`, `cols` the
merge of the two column lists -/
theorem mergeSD_spec_rec (x y : Row) (hx : SortedRow x) (hy : SortedRow y)
    (nx : NonnegRow x) (ny : NonnegRow y) :
    mergeSD x y = (colSumAbs x y (mergeCols (x.map Prod.fst) (y.map Prod.fst)),
                   colSumMax x y (mergeCols (x.map Prod.fst) (y.map Prod.fst))) :=
  C06L.mergeSD_spec_rec x y hx hy nx ny

theorem unionCols_eq_mergeCols (x y : Row) (hx : SortedRow x) (hy : SortedRow y) :
    unionCols x y = mergeCols (x.map Prod.fst) (y.map Prod.fst) :=
  C06L.unionCols_eq_mergeCols x y hx hy

/-- the merge kernel of `_sparse_soergel` computes the two sums of the Soergel definition -/
theorem mergeSD_spec (x y : Row)
    (hx : (x.map Prod.fst).Pairwise (· < ·)) (hy : (y.map Prod.fst).Pairwise (· < ·))
    (nx : ∀ p ∈ x, 0 ≤ p.2) (ny : ∀ p ∈ y, 0 ≤ p.2) :
    (mergeSD x y).1 = sumQ ((unionCols x y).map (fun i => absQ (rowVal x i - rowVal y i))) ∧
    (mergeSD x y).2 = sumQ ((unionCols x y).map (fun i => maxQ (rowVal x i) (rowVal y i))) :=
  C06L.mergeSD_spec x y hx hy nx ny

theorem ex_rows_nonneg : NonnegRow [(0, 2), (3, 1)] ∧ NonnegRow [(3, 4), (5, 1)] := by
  unfold NonnegRow; decide +kernel
theorem ex_rows_binary : BinaryRow [(1, 1), (2, 1)] ∧ BinaryRow [(2, 1), (5, 1)] := by
  unfold BinaryRow; decide +kernel

example : mergeSD [(0, 2), (3, 1)] [(3, 4), (5, 1)] = (6, 7) := by
  decide +kernel

/-- The non-negativity hypothesis cannot be dropped: the kernel adds an unmatched value as it stands,
the definition takes its absolute value.  (The implementation is only meant for count matrices.) -/
theorem mergeSD_spec_false_for_negative :
    ¬ ((mergeSD [] [(0, -1)]).1
        = sumQ ((unionCols [] [(0, -1)]).map (fun i => absQ (rowVal [] i - rowVal [(0, -1)] i)))) := by
  decide +kernel

theorem sortRow_of_sorted (r : Row) (h : (r.map Prod.fst).Pairwise (· < ·)) : sortRow r = r :=
  C06L.sortRow_of_sorted r h

example : sortRow [(0, 2), (3, 1)] = [(0, 2), (3, 1)] := sortRow_of_sorted _ (by decide)

/-- **sparse Soergel = definition** on non-empty sorted duplicate-free non-negative rows -/
theorem arrSoergelSparse_eq_def (x y : Row) (ex : x ≠ []) (ey : y ≠ [])
    (hx : SortedRow x) (hy : SortedRow y) (nx : NonnegRow x) (ny : NonnegRow y) :
    arrSoergelSparse x y = soergelDef x y := by
  unfold arrSoergelSparse
  rw [if_neg (fun h => h.elim ex ey), C06L.sortRow_of_sorted x hx, C06L.sortRow_of_sorted y hy,
    soergelDef_eq, C06L.mergeSD_spec_rec x y hx hy nx ny, ← C06L.unionCols_eq_mergeCols x y hx hy]

example : arrSoergelSparse [(0, 2), (3, 1)] [(3, 4), (5, 1)] = soergelDef [(0, 2), (3, 1)] [(3, 4), (5, 1)] :=
  arrSoergelSparse_eq_def _ _ (List.cons_ne_nil _ _) (List.cons_ne_nil _ _) (by decide) (by decide)
    ex_rows_nonneg.1 ex_rows_nonneg.2

/-- with an empty operand the definition is 0 when the values are non-negative -/
theorem soergelDef_nil_left (y : Row) (ny : ∀ p ∈ y, 0 ≤ p.2) : soergelDef [] y = 0 :=
  C06L.soergelDef_nil_left y ny
theorem soergelDef_nil_right (x : Row) (nx : ∀ p ∈ x, 0 ≤ p.2) : soergelDef x [] = 0 :=
  C06L.soergelDef_nil_right x nx
/-- with an empty operand the sparse route is 0, whatever the values -/
theorem arrSoergelSparse_nil_left (y : Row) : arrSoergelSparse [] y = 0 := if_pos (Or.inl rfl)
theorem arrSoergelSparse_nil_right (x : Row) : arrSoergelSparse x [] = 0 := if_pos (Or.inr rfl)

theorem arrSoergelSparse_eq_def_all (x y : Row)
    (hx : SortedRow x) (hy : SortedRow y) (nx : NonnegRow x) (ny : NonnegRow y) :
    arrSoergelSparse x y = soergelDef x y := by
  by_cases ex : x = []
  · subst ex; rw [arrSoergelSparse_nil_left, C06L.soergelDef_nil_left y ny]
  · by_cases ey : y = []
    · subst ey; rw [arrSoergelSparse_nil_right, C06L.soergelDef_nil_right x nx]
    · exact arrSoergelSparse_eq_def x y ex ey hx hy nx ny

/-! ## symmetry -/

theorem mergeSD_symm (x y : Row) : mergeSD x y = mergeSD y x := C06L.mergeSD_symm x y

theorem unionCols_symm (x y : Row) : unionCols x y = unionCols y x := unionCols_comm x y

theorem soergelDef_symm (x y : Row) : soergelDef x y = soergelDef y x := C06L.soergelDef_symm x y

theorem arrSoergelSparse_symm (x y : Row) : arrSoergelSparse x y = arrSoergelSparse y x := by
  unfold arrSoergelSparse
  rewrite [C06L.mergeSD_symm (sortRow x) (sortRow y)]
  by_cases h : x = [] ∨ y = []
  · rw [if_pos h, if_pos (Or.symm h)]
  · rw [if_neg h, if_neg (fun h' => h (Or.symm h'))]

theorem tanimotoDef_symm (x y : Row) : tanimotoDef x y = tanimotoDef y x := by
  unfold tanimotoDef
  simp only [interCount_comm _ _ (strictAsc_rowSupport x) (strictAsc_rowSupport y),
    Nat.add_comm (rowSupport x).length]

theorem diceDef_symm (x y : Row) : diceDef x y = diceDef y x := by
  unfold diceDef
  simp only [interCount_comm _ _ (strictAsc_rowSupport x) (strictAsc_rowSupport y),
    Nat.add_comm (rowSupport x).length]

theorem cosineDef_symm (x y : Row) :
    (cosineDef x y).1 = (cosineDef y x).1 ∧ (cosineDef x y).2 = (cosineDef y x).2 := by
  unfold cosineDef
  exact ⟨dotQ_symm x y, Rat.mul_comm _ _⟩

theorem pearsonDef_symm (b : Nat) (x y : Row) : pearsonDef b x y = pearsonDef b y x := by
  simp only [pearsonDef, dotQ_symm x y]
  exact Prod.ext (by rw [Rat.mul_comm (rowSum x / _)]) (Rat.mul_comm _ _)

theorem arrPearson_symm (b : Nat) (x y : Row) : arrPearson b x y = arrPearson b y x := by
  simp only [arrPearson, dotQ_symm x y]
  refine Prod.ext ?_ (Rat.mul_comm _ _)
  rw [Rat.mul_assoc, Rat.mul_comm (rowSum x / _), ← Rat.mul_assoc]

/-! ## fingerprint Tanimoto / Dice: symmetry, range, self-similarity, empty operands -/

theorem fpTanimoto_symm (f g : Fp) (hf : StrictAsc f.idx) (hg : StrictAsc g.idx) :
    fpTanimoto f g = fpTanimoto g f := by
  unfold fpTanimoto Gen.fpTanimotoExpr
  rw [interCount_comm _ _ hf hg, Rat.add_comm]

theorem fpDice_symm (f g : Fp) (hf : StrictAsc f.idx) (hg : StrictAsc g.idx) :
    fpDice f g = fpDice g f := by
  unfold fpDice Gen.fpDiceExpr
  rw [interCount_comm _ _ hf hg, Rat.add_comm]

example : fpTanimoto ⟨.bit, 8, 0, [1, 2], []⟩ ⟨.bit, 8, 0, [2, 5], []⟩
    = fpTanimoto ⟨.bit, 8, 0, [2, 5], []⟩ ⟨.bit, 8, 0, [1, 2], []⟩ :=
  fpTanimoto_symm _ _ (by decide) (by decide)

/-- `nan_to_num(a / b)` lies in `[0, 1]` whenever `0 ≤ a ≤ b` -/
theorem divNan_range (a b : Rat) (h0 : 0 ≤ a) (h : a ≤ b) :
    0 ≤ Gen.divNan a b ∧ Gen.divNan a b ≤ 1 := by
  unfold Gen.divNan
  by_cases hb : b = 0
  · rewrite [if_pos hb]; exact ⟨Rat.le_refl, by decide⟩
  · rewrite [if_neg hb]
    have hpos := Rat.lt_of_le_of_ne (Rat.le_trans h0 h) (Ne.symm hb)
    constructor
    · rewrite [Rat.div_def]
      exact Rat.mul_nonneg h0 (Rat.le_of_lt (Rat.inv_pos.2 hpos))
    · apply Rat.not_lt.1
      intro hlt
      have := (Rat.lt_div_iff hpos).1 hlt
      rewrite [Rat.one_mul] at this
      exact Rat.not_lt.2 h this

theorem fpExpr_range (i a b : Nat) (h1 : i ≤ a) (h2 : i ≤ b) :
    (0 ≤ Gen.fpTanimotoExpr i a b ∧ Gen.fpTanimotoExpr i a b ≤ 1) ∧
    (0 ≤ Gen.fpDiceExpr i a b ∧ Gen.fpDiceExpr i a b ≤ 1) := by
  unfold Gen.fpTanimotoExpr Gen.fpDiceExpr
  have h0 : (0 : Rat) ≤ (i : Nat) := Rat.natCast_nonneg
  have hsum :=
    Rat.le_trans (Rat.add_le_add_right.2 (Rat.natCast_le_natCast.2 h1)) (Rat.add_le_add_left.2 (Rat.natCast_le_natCast.2 h2))
  constructor
  · exact divNan_range _ _ h0 (Rat.le_sub_iff.2 hsum)
  · rewrite [rat_two_mul]
    exact divNan_range _ _ (Rat.add_nonneg h0 h0) hsum
theorem fpTanimoto_range (f g : Fp) (hf : StrictAsc f.idx) (hg : StrictAsc g.idx) :
    0 ≤ fpTanimoto f g ∧ fpTanimoto f g ≤ 1 :=
  (fpExpr_range _ _ _ (interCount_le_left _ _) (interCount_le_right _ _ hf hg)).1

example : 0 ≤ fpTanimoto ⟨.bit, 8, 0, [1, 2], []⟩ ⟨.bit, 8, 0, [2, 5], []⟩ ∧
    fpTanimoto ⟨.bit, 8, 0, [1, 2], []⟩ ⟨.bit, 8, 0, [2, 5], []⟩ ≤ 1 :=
  fpTanimoto_range _ _ (by decide) (by decide)

theorem fpDice_range (f g : Fp) (hf : StrictAsc f.idx) (hg : StrictAsc g.idx) :
    0 ≤ fpDice f g ∧ fpDice f g ≤ 1 :=
  (fpExpr_range _ _ _ (interCount_le_left _ _) (interCount_le_right _ _ hf hg)).2

theorem divNan_self (a : Rat) (h : a ≠ 0) : Gen.divNan a a = 1 := by
  rw [Gen.divNan, if_neg h, Rat.div_def, Rat.mul_inv_cancel a h]

theorem fpExpr_self (a : Nat) (h : a ≠ 0) : Gen.fpTanimotoExpr a a a = 1 ∧ Gen.fpDiceExpr a a a = 1 := by
  have h' := mt Rat.natCast_eq_zero_iff.1 h
  unfold Gen.fpTanimotoExpr Gen.fpDiceExpr
  rewrite [Rat.add_sub_cancel, ← rat_two_mul]
  exact ⟨divNan_self _ h', divNan_self _ (fun e => (Rat.mul_eq_zero.1 e).elim (by decide) h')⟩

/-- self-similarity (only non-emptiness is needed) -/
theorem fpTanimoto_self (f : Fp) (h : f.idx ≠ []) : fpTanimoto f f = 1 := by
  unfold fpTanimoto
  rewrite [interCount_self]
  exact (fpExpr_self _ (fun e => h (List.length_eq_zero_iff.1 e))).1

theorem fpDice_self (f : Fp) (h : f.idx ≠ []) : fpDice f f = 1 := by
  unfold fpDice
  rewrite [interCount_self]
  exact (fpExpr_self _ (fun e => h (List.length_eq_zero_iff.1 e))).2

example : fpTanimoto ⟨.bit, 8, 0, [1, 2], []⟩ ⟨.bit, 8, 0, [1, 2], []⟩ = 1 :=
  fpTanimoto_self _ (List.cons_ne_nil _ _)

/-! ## Soergel on bit rows is Tanimoto -/

/-- on 0/1 rows the Soergel definition is the Tanimoto definition: `Σ max = |A ∪ B|`,
`Σ |x − y| = |A ∪ B| − |A ∩ B|` -/
theorem soergel_zeroOne (x y : Row) (hx : ZeroOne x) (hy : ZeroOne y) :
    soergelDef x y = tanimotoDef x y := by
  rewrite [soergelDef_eq, colSumMax_zeroOne x y hx hy, colSumAbs_zeroOne x y hx hy, tanimotoDef_eq_expr]
  unfold Gen.fpTanimotoExpr Gen.divNan
  grind -linarith

/-- on rows whose stored values are all 1 the Soergel definition is the Tanimoto definition
(sortedness of the columns is not needed: the definitions work on `uniq` of the columns) -/
theorem soergel_binary (x y : Row) (hx : BinaryRow x) (hy : BinaryRow y) :
    soergelDef x y = tanimotoDef x y :=
  soergel_zeroOne x y hx.zeroOne hy.zeroOne

example : soergelDef [(1, 1), (2, 1)] [(2, 1), (5, 1)] = tanimotoDef [(1, 1), (2, 1)] [(2, 1), (5, 1)] :=
  soergel_binary _ _ ex_rows_binary.1 ex_rows_binary.2

/-! ## fingerprint Tanimoto = definition on the rows of the fingerprints -/

/-- the matrix row of a bit fingerprint (`cntRow f` when `f.kind = .bit`: `cntRow_bit`) -/
def bitRow (f : Fp) : Row := f.idx.map (fun i => (i, (1 : Rat)))

theorem binaryRow_bitRow (f : Fp) : BinaryRow (bitRow f) := by
  intro p hp
  unfold bitRow at hp
  obtain ⟨i, _, rfl⟩ := List.mem_map.1 hp
  rfl

theorem rowSupport_bitRow (f : Fp) (h : StrictAsc f.idx) : rowSupport (bitRow f) = f.idx := by
  rewrite [rowSupport_binary _ (binaryRow_bitRow f)]
  unfold rowCols bitRow
  rw [map_fst_graph, uniq_of_strictAsc _ h]

theorem fp_eq_def_of_support (f g : Fp) (x y : Row) (hx : rowSupport x = f.idx) (hy : rowSupport y = g.idx) :
    fpTanimoto f g = tanimotoDef x y ∧ fpDice f g = diceDef x y := by
  rewrite [tanimotoDef_eq_expr, diceDef_eq_expr, hx, hy]
  exact ⟨rfl, rfl⟩

theorem fp_eq_def_tanimoto (f g : Fp) (hf : f.WF) (hg : g.WF) :
    fpTanimoto f g = tanimotoDef (bitRow f) (bitRow g) :=
  (fp_eq_def_of_support f g _ _ (rowSupport_bitRow f hf.1) (rowSupport_bitRow g hg.1)).1

theorem wf_example_bit (l : List Nat) (h1 : StrictAsc l) (h2 : ∀ i ∈ l, i < 8) :
    Fp.WF ⟨.bit, 8, 0, l, []⟩ :=
  ⟨h1, h2, fun _ => rfl, fun h => absurd rfl h⟩

example : fpTanimoto ⟨.bit, 8, 0, [1, 2], []⟩ ⟨.bit, 8, 0, [2, 5], []⟩
    = tanimotoDef (bitRow ⟨.bit, 8, 0, [1, 2], []⟩) (bitRow ⟨.bit, 8, 0, [2, 5], []⟩) :=
  fp_eq_def_tanimoto _ _ (wf_example_bit _ (by decide) (by decide)) (wf_example_bit _ (by decide) (by decide))

/-! ## matrix Tanimoto / Dice = definition on bit rows -/

/-! On bit rows `X·Yᵀ = |X ∩ Y|` and the row sum is `|X|`, in terms of the supports (`C06L.dotQ_binary`,
`C06L.rowSum_binary` have `rowCols`). -/

theorem dotQ_binary (x y : Row) (hx : BinaryRow x) (hy : BinaryRow y) :
    dotQ x y = (interCount (rowSupport x) (rowSupport y) : Nat) :=
  dotQ_zeroOne x y hx.zeroOne hy.zeroOne

theorem rowSum_binary (x : Row) (hx : BinaryRow x) : rowSum x = ((rowSupport x).length : Nat) :=
  rowSum_zeroOne x hx.zeroOne

theorem arrTanimoto_eq_def (x y : Row) (hx : BinaryRow x) (hy : BinaryRow y) :
    arrTanimoto x y = tanimotoDef x y :=
  arrTanimoto_zeroOne x y hx.zeroOne hy.zeroOne

theorem arrDice_eq_def (x y : Row) (hx : BinaryRow x) (hy : BinaryRow y) :
    arrDice x y = diceDef x y :=
  arrDice_zeroOne x y hx.zeroOne hy.zeroOne

example : arrTanimoto [(1, 1), (2, 1)] [(2, 1), (5, 1)] = tanimotoDef [(1, 1), (2, 1)] [(2, 1), (5, 1)] :=
  arrTanimoto_eq_def _ _ ex_rows_binary.1 ex_rows_binary.2

/-- all three routes agree on bit fingerprints -/
theorem tanimoto_three_routes (f g : Fp) (hf : f.WF) (hg : g.WF) :
    fpTanimoto f g = arrTanimoto (bitRow f) (bitRow g) ∧
    arrTanimoto (bitRow f) (bitRow g) = tanimotoDef (bitRow f) (bitRow g) := by
  have h := arrTanimoto_eq_def _ _ (binaryRow_bitRow f) (binaryRow_bitRow g)
  exact ⟨(fp_eq_def_tanimoto f g hf hg).trans h.symm, h⟩

/-! ## self-similarity -/

theorem soergelDef_self_one (x : Row) (nx : NonnegRow x) (k : Nat) (hk : 0 < rowVal x k) :
    soergelDef x x = 1 := by
  rewrite [soergelDef_eq, show colSumAbs x x _ = 0 from sumQ_map_eq_zero _ _ (fun _ _ => absQ_self _)]
  have hmem : k ∈ unionCols x x :=
    rowCols_sub_union_left x x k (rowSupport_sub_cols x k ((mem_rowSupport x k).2 (Rat.ne_of_gt hk)))
  have hpos : 0 < colSumMax x x (unionCols x x) := by
    unfold colSumMax
    apply sumQ_map_pos _ _ _ k hmem
    · rewrite [maxQ_self]; exact hk
    · intro a _; rewrite [maxQ_self]; exact rowVal_nonneg x nx a
  rw [if_neg (Rat.ne_of_gt hpos), Rat.div_def, Rat.zero_mul, Rat.sub_eq_add_neg, Rat.neg_zero, Rat.add_zero]

/-- Soergel self-similarity is 1 for a sorted duplicate-free non-negative row with a positive stored value, by both
routes -/
theorem self_one (x : Row) (hx : SortedRow x) (nx : NonnegRow x) (p : Nat × Rat) (hp : p ∈ x)
    (hpos : 0 < p.2) : soergelDef x x = 1 ∧ arrSoergelSparse x x = 1 := by
  have h : soergelDef x x = 1 :=
    soergelDef_self_one x nx p.1 (by rewrite [rowVal, lookupQ_of_mem x (StrictAsc.nodup hx) p hp]; exact hpos)
  refine ⟨h, ?_⟩
  rw [arrSoergelSparse_eq_def_all x x hx hx nx nx, h]

example : soergelDef [(0, 2), (3, 1)] [(0, 2), (3, 1)] = 1 ∧ arrSoergelSparse [(0, 2), (3, 1)] [(0, 2), (3, 1)] = 1 :=
  self_one _ (by decide) ex_rows_nonneg.1
    (0, 2) (List.mem_cons_self ..) (by decide)

/-- cosine self-similarity: `num² = rad`, i.e. `num / sqrt rad = 1` when `num > 0` -/
theorem cosine_self (x : Row) : (cosineDef x x).1 ^ 2 = (cosineDef x x).2 ∧ 0 ≤ (cosineDef x x).1 := by
  unfold cosineDef
  refine ⟨Lean.Grind.Semiring.pow_two _, ?_⟩
  unfold dotQ
  apply sumQ_map_nonneg
  intro a _
  rcases Rat.nonneg_total (rowVal x a) with h | h
  · exact Rat.mul_nonneg h h
  · have := Rat.mul_nonneg h h
    rwa [Rat.neg_mul, Rat.mul_neg, Rat.neg_neg] at this

/-! ## the two Pearson normalisations give the same ratio -/

theorem pearson_den_pos (b : Nat) (hb : 2 ≤ b) : 0 < (b : Rat) ∧ 0 < (b : Rat) - 1 := by
  refine ⟨Rat.natCast_pos.2 (Nat.lt_of_lt_of_le Nat.zero_lt_two hb), Rat.lt_sub_right_iff_add_lt.2 ?_⟩
  rewrite [Rat.zero_add]
  exact Rat.natCast_lt_natCast.2 hb

/-- the sparse Pearson pair is the definition's pair scaled by `c = b/(b−1)` and `c²`: the value
`num / sqrt rad` is the same -/
theorem arrPearson_scaled (b : Nat) (hb : 2 ≤ b) (x y : Row) :
    arrPearson b x y = (((b : Rat) / ((b : Rat) - 1)) * (pearsonDef b x y).1,
                        ((b : Rat) / ((b : Rat) - 1)) ^ 2 * (pearsonDef b x y).2) := by
  have h0 := Rat.ne_of_gt (pearson_den_pos b hb).1
  unfold arrPearson pearsonDef
  rewrite [Prod.mk.injEq]; grind -linarith

theorem pearson_scale_pos (b : Nat) (hb : 2 ≤ b) : 0 < (b : Rat) / ((b : Rat) - 1) := by
  rewrite [Rat.div_def]
  exact Rat.mul_pos (pearson_den_pos b hb).1 (Rat.inv_pos.2 (pearson_den_pos b hb).2)

/-- `num² / rad` is the same with the `b − 1` (sparse route) and the `b` (definition) normalisation -/
theorem pearson_routes_agree (b : Nat) (hb : 2 ≤ b) (x y : Row) :
    (arrPearson b x y).1 ^ 2 * (pearsonDef b x y).2 = (pearsonDef b x y).1 ^ 2 * (arrPearson b x y).2 := by
  rw [arrPearson_scaled b hb x y, Lean.Grind.CommSemiring.mul_pow, Rat.mul_comm (_ ^ 2), Rat.mul_assoc]

/-- the numerator of the sparse route is the definition's times `c = b/(b−1)`, which is positive
(`pearson_scale_pos`): the signs agree, so with `pearson_routes_agree` the two correlation values are equal -/
theorem pearson_num_sign (b : Nat) (hb : 2 ≤ b) (x y : Row) :
    (arrPearson b x y).1 = (pearsonDef b x y).1 * ((b : Rat) / ((b : Rat) - 1)) := by
  rewrite [arrPearson_scaled b hb x y]
  exact Rat.mul_comm _ _

example : (arrPearson 4 [(0, 2), (3, 1)] [(3, 4)]).1 ^ 2 * (pearsonDef 4 [(0, 2), (3, 1)] [(3, 4)]).2
    = (pearsonDef 4 [(0, 2), (3, 1)] [(3, 4)]).1 ^ 2 * (arrPearson 4 [(0, 2), (3, 1)] [(3, 4)]).2 :=
  pearson_routes_agree 4 (by decide) _ _

/-! ## further routes: dense Soergel, and the count-dictionary measures -/

/-- the dense loop equals the definition on the dense forms of two rows (any sign, any order,
duplicates resolved by first entry as in `rowVal`) -/
theorem arrSoergelDense_eq_def (b : Nat) (x y : Row)
    (hx : ∀ p ∈ x, p.1 < b) (hy : ∀ p ∈ y, p.1 < b) :
    arrSoergelDense ((List.range b).map (rowVal x)) ((List.range b).map (rowVal y)) = soergelDef x y :=
  C06L.arrSoergelDense_eq_def b x y hx hy

/-- dense and sparse Soergel routes agree on sorted duplicate-free non-negative rows -/
theorem soergel_dense_sparse_agree (b : Nat) (x y : Row)
    (hx : SortedRow x) (hy : SortedRow y) (nx : NonnegRow x) (ny : NonnegRow y)
    (bx : ∀ p ∈ x, p.1 < b) (bY : ∀ p ∈ y, p.1 < b) :
    arrSoergelDense ((List.range b).map (rowVal x)) ((List.range b).map (rowVal y))
      = arrSoergelSparse x y := by
  rw [arrSoergelDense_eq_def b x y bx bY, arrSoergelSparse_eq_def_all x y hx hy nx ny]

example : arrSoergelDense ((List.range 6).map (rowVal [(0, 2), (3, 1)])) ((List.range 6).map (rowVal [(3, 4), (5, 1)]))
    = arrSoergelSparse [(0, 2), (3, 1)] [(3, 4), (5, 1)] :=
  soergel_dense_sparse_agree 6 _ _ (by decide) (by decide)
    ex_rows_nonneg.1 ex_rows_nonneg.2
    (by decide)
    (by decide)

/-- with a negative value the sparse route leaves the definition (and hence the dense route) -/
theorem arrSoergelSparse_ne_def_negative :
    arrSoergelSparse [(0, 1)] [(1, -1)] = 0 ∧ soergelDef [(0, 1)] [(1, -1)] = -1 := by
  decide +kernel

theorem arrCosine_eq_def (x y : Row) : arrCosine x y = cosineDef x y := rfl

theorem fp_eq_def_cosine (f g : Fp) (hf : f.WF) (hg : g.WF) :
    fpCosine f g = cosineDef (cntRow f) (cntRow g) := by
  unfold fpCosine cosineDef
  rw [fpDot_eq_dotQ f g hf hg, fpSq_eq_dotQ f hf, fpSq_eq_dotQ g hg]

theorem fp_eq_def_pearson (f g : Fp) (hf : f.WF) (hg : g.WF) (hb : f.bits = g.bits) :
    fpPearson f g = pearsonDef f.bits (cntRow f) (cntRow g) := by
  unfold fpPearson pearsonDef
  rw [fpDot_eq_dotQ f g hf hg, fpSq_eq_dotQ f hf, fpSq_eq_dotQ g hg, fpSumC_eq_rowSum f hf,
    fpSumC_eq_rowSum g hg, ← hb]

/-- whatever the kinds: two bit fingerprints take the Tanimoto shortcut, which is Soergel on 0/1 rows -/
theorem fp_eq_def_soergel (f g : Fp) (hf : f.WF) (hg : g.WF) :
    fpSoergel f g = soergelDef (cntRow f) (cntRow g) := by
  by_cases hk : f.kind = .bit ∧ g.kind = .bit
  · unfold fpSoergel
    rewrite [if_pos hk, cntRow_bit f hk.1, cntRow_bit g hk.2]
    exact (fp_eq_def_tanimoto f g hf hg).trans (soergel_binary _ _ (binaryRow_bitRow f) (binaryRow_bitRow g)).symm
  · unfold fpSoergel
    rewrite [if_neg hk, soergelDef_eq]
    unfold colSumMax colSumAbs
    simp only [unionCols_cntRow, rowVal_cntRow f hf, rowVal_cntRow g hg]
    by_cases hu : uniq (f.idx ++ g.idx) = []
    · rewrite [if_pos hu, hu]; rfl
    · rw [if_neg hu]

theorem wf_example_count : Fp.WF ⟨.count, 8, 0, [1, 2], [(1, 3), (2, 1)]⟩ := by
  refine ⟨by decide, by decide, ?_, ?_⟩
  · intro h; exact absurd h (by decide)
  · intro _; rfl

example : fpSoergel ⟨.count, 8, 0, [1, 2], [(1, 3), (2, 1)]⟩ ⟨.bit, 8, 0, [2, 5], []⟩
    = soergelDef (cntRow ⟨.count, 8, 0, [1, 2], [(1, 3), (2, 1)]⟩) (cntRow ⟨.bit, 8, 0, [2, 5], []⟩) :=
  fp_eq_def_soergel _ _ wf_example_count (wf_example_bit _ (by decide) (by decide))

example : fpPearson ⟨.count, 8, 0, [1, 2], [(1, 3), (2, 1)]⟩ ⟨.bit, 8, 0, [2, 5], []⟩
    = pearsonDef 8 (cntRow ⟨.count, 8, 0, [1, 2], [(1, 3), (2, 1)]⟩) (cntRow ⟨.bit, 8, 0, [2, 5], []⟩) :=
  fp_eq_def_pearson _ _ wf_example_count (wf_example_bit _ (by decide) (by decide)) rfl


/-! ## the public functions (`metrics.__init__`): operands of different length, two fingerprints -/

/-- operands of different length are rejected, whatever their kinds and whichever measure -/
theorem dispatch_length_mismatch (m : Measure) (a b : Item) (h : a.bits ≠ b.bits) :
    metricDispatch m a (some b) = .error .bitsValue := by
  rewrite [metricDispatch_eq, checkPair_some, if_pos h]
  rfl

/-- two fingerprints of equal length go to the pairwise formulas unchanged (no cast: the binary
measures read a count fingerprint through its index set) -/
theorem dispatch_fp_fp (m : Measure) (f g : Fp) (h : f.bits = g.bits) :
    metricDispatch m (.fp f) (some (.fp g)) = .ok (.inl (simFp m f g)) := by
  rewrite [metricDispatch_eq, checkPair_some, if_neg (fun h' => h' (congrArg some h))]
  rfl

/-! ## the public functions with a database operand

`metricDispatch m a (some b)` with at least one database operand is the matrix of the row measure over the
operands' rows (`C06L.itemRows`): a database contributes its rows, cast to the bit kind for Tanimoto and
Dice unless it is a bit database already (`C06L.dbRows`); a lone fingerprint contributes the one row of
the database it is wrapped into, which has the bit kind for Tanimoto/Dice and the fingerprint's own kind
for the other three.  Wrapping is never refused (`C06L.add_single`: the wrapper takes the level from the
fingerprint).  The only way a database operand can be refused is `from_array`'s column-length check during
the cast (`C06L.Castable`), which the representation invariant `Db.Inv` excludes. -/

theorem castable_of_inv (t : Option Kind) (d : Db) (h : d.Inv) : Castable t d := by
  cases t with
  | none => trivial
  | some k =>
    right
    intro c hc
    rw [h.col_length c hc, h.names_length]

/-- **fingerprint against database**: one row, its `j`-th entry the row measure of the wrapped
fingerprint's row against the `j`-th (cast) row of the database -/
theorem dispatch_fp_db (m : Measure) (f : Fp) (d : Db) (a : List Row) (ha : d.array = some a)
    (hb : f.bits = d.bits) (hc : Castable (measureCast m) d) :
    metricDispatch m (.fp f) (some (.db d)) =
      .ok (.inr [ (dbRows (measureCast m) d).map
        (fun s => simRows m f.bits (fpRow ((measureCast m).getD f.kind) f) s) ]) :=
  metricDispatch_matrix m (.fp f) (.db d) f.bits rfl (by rw [bits_db ha, hb]) (Or.inr rfl) trivial hc

/-- **database against fingerprint**: a one-column matrix -/
theorem dispatch_db_fp (m : Measure) (f : Fp) (d : Db) (a : List Row) (ha : d.array = some a)
    (hb : d.bits = f.bits) (hc : Castable (measureCast m) d) :
    metricDispatch m (.db d) (some (.fp f)) =
      .ok (.inr ((dbRows (measureCast m) d).map
        (fun r => [ simRows m d.bits r (fpRow ((measureCast m).getD f.kind) f) ]))) :=
  metricDispatch_matrix m (.db d) (.fp f) d.bits (bits_db ha) (congrArg some hb.symm)
    (Or.inl rfl) hc trivial

/-- **database against database** -/
theorem dispatch_db_db (m : Measure) (d e : Db) (a a' : List Row) (ha : d.array = some a)
    (ha' : e.array = some a') (hb : d.bits = e.bits)
    (hc : Castable (measureCast m) d) (hc' : Castable (measureCast m) e) :
    metricDispatch m (.db d) (some (.db e)) =
      .ok (.inr ((dbRows (measureCast m) d).map (fun r =>
        (dbRows (measureCast m) e).map (fun s => simRows m d.bits r s)))) :=
  metricDispatch_matrix m (.db d) (.db e) d.bits (bits_db ha) (by rw [bits_db ha', hb])
    (Or.inl rfl) hc hc'

/-- **a single database** (`B=None`) is compared with itself, and so is a single fingerprint
(`dispatch_single_fp`).  `ha` and `hc` are not used: this holds of every operand (`C06L.metricDispatch_none`). -/
theorem dispatch_single (m : Measure) (d : Db) (a : List Row) (ha : d.array = some a)
    (hc : Castable (measureCast m) d) :
    metricDispatch m (.db d) none = metricDispatch m (.db d) (some (.db d)) :=
  metricDispatch_none m (.db d)

theorem dispatch_single_fp (m : Measure) (f : Fp) :
    metricDispatch m (.fp f) none = metricDispatch m (.fp f) (some (.fp f)) :=
  metricDispatch_none m (.fp f)

/-- wrapping a lone fingerprint is never refused, whatever its level, kind or length: the wrapper creates
the database with the fingerprint's own level (so `add_fingerprints`' level check cannot fail) -/
theorem dispatch_wrap_accepts (k : Kind) (f : Fp) :
    (Db.new k f.level none).add [⟨f, none, []⟩] = (wrapDb k f, none) ∧
    (wrapDb k f).array = some [fpRow k f] ∧ (wrapDb k f).bits = f.bits :=
  ⟨add_single k f, rfl, rfl⟩

/-- a database without rows has no length: against a fingerprint it is a length mismatch -/
theorem dispatch_fp_emptydb (m : Measure) (f : Fp) (d : Db) (h : d.array = none) :
    metricDispatch m (.fp f) (some (.db d)) = .error .bitsValue ∧
    metricDispatch m (.db d) (some (.fp f)) = .error .bitsValue := by
  constructor <;> apply dispatch_length_mismatch <;> simp [Item.bits, h]

attribute [local instance] decEqExcept in
/-- `Castable` cannot be dropped for the binary measures: a count database whose property column has the
wrong length is refused by the cast (`from_array`'s check), although Soergel accepts it as it is.
Such a database violates `Db.Inv`; it cannot be built through the library's functions. -/
theorem dispatch_uncastable :
    let d : Db := { fpType := .count, level := 0, name := none, array := some [[(1, 2)]], bits := 8,
                    fpNames := [none], namesMap := [(none, [0])], props := [("p", [])] }
    metricDispatch .tanimoto (.db d) none = .error .value ∧
    metricDispatch .soergel (.db d) none = .ok (.inr [[.q 1]]) := by
  decide +kernel

/-- the cast asked for by the measure, on one row (`none`: no cast) -/
def castRowO (t : Option Kind) (r : Row) : Row :=
  match t with
  | none => r
  | some k => castRow k r

theorem castRow_idem (k : Kind) (r : Row) : castRow k (castRow k r) = castRow k r := by
  unfold castRow
  rewrite [List.map_map]
  exact List.map_congr_left (fun p _ => congrArg (Prod.mk p.1) (castVal_idem k p.2))

/-! ### zero denominators -/

theorem interCount_nil_left (b : List Nat) : interCount [] b = 0 := rfl
theorem interCount_nil_right (a : List Nat) : interCount a [] = 0 := by
  simp [interCount]

theorem fpExpr_zero (a b : Nat) : Gen.fpTanimotoExpr 0 a b = 0 ∧ Gen.fpDiceExpr 0 a b = 0 := by
  unfold Gen.fpTanimotoExpr Gen.fpDiceExpr
  rewrite [Rat.natCast_eq_zero_iff.2 rfl, Rat.mul_zero]
  exact ⟨divNan_zero_left _, divNan_zero_left _⟩

theorem cntRow_of_empty (f : Fp) (h : f.idx = []) : cntRow f = [] := by rewrite [cntRow, h]; rfl

/-- for `fpDot f g`, `fpSq f`, `fpSumC f`, which are sums over `f.idx` -/
theorem sumQ_idx_empty {l : List Nat} (he : l = []) (h : Nat → Rat) : sumQ (l.map h) = 0 := by rewrite [he]; rfl

/-- the right operand is read through `count`, which is 0 off the index array only when it is well-formed -/
theorem fpDot_empty_right (f g : Fp) (he : g.idx = []) (hg : g.WF) : fpDot f g = 0 :=
  sumQ_map_eq_zero _ _ (fun i _ => by rw [Fp.count_of_not_mem g hg i (by rewrite [he]; simp), Rat.mul_zero])

/-- outside Soergel the value is made of `|A ∩ B|`, `Σ fᵢgᵢ` and each operand's sum and sum of squares -/
theorem simFp_isZero (m : Measure) (hm : m ≠ .soergel) (f g : Fp) (hi : interCount f.idx g.idx = 0)
    (hd : fpDot f g = 0) (hs : fpSq f = 0 ∧ fpSumC f = 0 ∨ fpSq g = 0 ∧ fpSumC g = 0) :
    (simFp m f g).IsZero := by
  cases m with
  | tanimoto => show Gen.fpTanimotoExpr (interCount f.idx g.idx) _ _ = 0; rewrite [hi]; exact (fpExpr_zero _ _).1
  | dice => show Gen.fpDiceExpr (interCount f.idx g.idx) _ _ = 0; rewrite [hi]; exact (fpExpr_zero _ _).2
  | soergel => exact absurd rfl hm
  | cosine =>
    refine ⟨hd, ?_⟩
    show fpSq f * fpSq g = 0
    rcases hs with h | h
    · rw [h.1, Rat.zero_mul]
    · rw [h.1, Rat.mul_zero]
  | pearson =>
    show (fpPearson f g).1 = 0 ∧ (fpPearson f g).2 = 0
    unfold fpPearson
    rcases hs with h | h <;>
      simp only [hd, h.1, h.2, Rat.div_def, Rat.zero_mul, Rat.mul_zero, Rat.sub_self, and_self]

/-- two-fingerprint form, empty left operand: 0 under every measure.  Soergel needs the other operand
non-negative (see `soergel_empty_negative`). -/
theorem simFp_empty_left (m : Measure) (f g : Fp) (he : f.idx = [])
    (hw : m = .soergel → f.WF ∧ g.WF ∧ NonnegFp g) : (simFp m f g).IsZero := by
  by_cases hm : m = .soergel
  · obtain ⟨hf, hg, hn⟩ := hw hm
    subst hm
    show fpSoergel f g = 0
    rewrite [fp_eq_def_soergel f g hf hg, cntRow_of_empty f he]
    exact C06L.soergelDef_nil_left _ (nonnegRow_cntRow g hn)
  · exact simFp_isZero m hm f g (by rw [he, interCount_nil_left]) (sumQ_idx_empty he _)
      (Or.inl ⟨sumQ_idx_empty he _, sumQ_idx_empty he _⟩)

theorem simFp_empty_right (m : Measure) (f g : Fp) (he : g.idx = []) (hf : f.WF) (hg : g.WF)
    (hn : m = .soergel → NonnegFp f) : (simFp m f g).IsZero := by
  by_cases hm : m = .soergel
  · subst hm
    show fpSoergel f g = 0
    rewrite [fp_eq_def_soergel f g hf hg, cntRow_of_empty g he]
    exact C06L.soergelDef_nil_right _ (nonnegRow_cntRow f (hn rfl))
  · exact simFp_isZero m hm f g (by rw [he, interCount_nil_right]) (fpDot_empty_right f g he hg)
      (Or.inr ⟨sumQ_idx_empty he _, sumQ_idx_empty he _⟩)

/-- all fingerprint measures are 0 (numerator and radicand 0 for the two root measures) when both
operands are empty -/
theorem zero_is_zero (f g : Fp) (hf : f.idx = []) (hg : g.idx = []) :
    fpTanimoto f g = 0 ∧ fpDice f g = 0 ∧ fpSoergel f g = 0 ∧
    fpCosine f g = (0, 0) ∧ fpPearson f g = (0, 0) := by
  have h (m : Measure) (hm : m ≠ .soergel) : (simFp m f g).IsZero :=
    simFp_empty_left m f g hf (fun e => absurd e hm)
  refine ⟨h .tanimoto (by decide), h .dice (by decide), ?_,
    Prod.ext (h .cosine (by decide)).1 (h .cosine (by decide)).2,
    Prod.ext (h .pearson (by decide)).1 (h .pearson (by decide)).2⟩
  unfold fpSoergel
  by_cases hk : f.kind = .bit ∧ g.kind = .bit
  · rewrite [if_pos hk]; exact h .tanimoto (by decide)
  · rewrite [if_neg hk, hf, hg]; rfl

/-- the same for the matrix measures and the definitions on two empty rows -/
theorem zero_is_zero_rows :
    arrTanimoto [] [] = 0 ∧ arrDice [] [] = 0 ∧ arrSoergelSparse [] [] = 0 ∧
    arrSoergelDense [] [] = 0 ∧ arrCosine [] [] = (0, 0) ∧
    tanimotoDef [] [] = 0 ∧ diceDef [] [] = 0 ∧ soergelDef [] [] = 0 ∧ cosineDef [] [] = (0, 0) := by
  have h (m : Measure) := simRows_nil m 0 [] [] (Or.inl rfl)
  have hc : arrCosine [] [] = (0, 0) := Prod.ext (h .cosine).1 (h .cosine).2
  exact ⟨h .tanimoto, h .dice, h .soergel, rfl, hc, by decide, by decide,
    C06L.soergelDef_nil_left [] (fun p hp => by cases hp), hc⟩

/-- every value of a result (the scalar, or every matrix entry) is 0 -/
def AllZero : Sum Sim (List (List Sim)) → Prop
  | .inl s => s.IsZero
  | .inr M => ∀ row ∈ M, ∀ s ∈ row, s.IsZero

/-- **zero denominators**: an empty (all-zero) fingerprint as the first operand scores 0 against a
fingerprint or against every row of a database, under every measure (for cosine and Pearson: numerator
and radicand are both 0, which the code maps to 0).  Only the two-fingerprint Soergel needs the other
operand non-negative. -/
theorem dispatch_zero_denominator (m : Measure) (f : Fp) (he : f.idx = []) (b : Item)
    (hb : b.bits = some f.bits) (cb : ItemCastable (measureCast m) b)
    (hfp : ∀ g, b = .fp g → f.WF ∧ g.WF ∧ (m = .soergel → NonnegFp g)) :
    ∃ r, metricDispatch m (.fp f) (some b) = .ok r ∧ AllZero r := by
  cases b with
  | fp g =>
    obtain ⟨hf, hg, hn⟩ := hfp g rfl
    refine ⟨_, dispatch_fp_fp m f g (Option.some.inj hb.symm), ?_⟩
    exact simFp_empty_left m f g he (fun e => ⟨hf, hg, hn e⟩)
  | db d =>
    refine ⟨_, metricDispatch_matrix m (.fp f) (.db d) f.bits rfl hb (Or.inr rfl) trivial cb, ?_⟩
    intro row hrow s hs
    simp only [itemRows, fpRow_of_empty _ f he, List.map_cons, List.map_nil, List.mem_singleton] at hrow
    subst hrow
    obtain ⟨y, _, rfl⟩ := List.mem_map.1 hs
    exact simRows_nil m f.bits [] y (Or.inl rfl)

/-- the same with the empty fingerprint as the second operand -/
theorem dispatch_zero_denominator_right (m : Measure) (f : Fp) (he : f.idx = []) (a : Item)
    (ha : a.bits = some f.bits) (ca : ItemCastable (measureCast m) a)
    (hfp : ∀ g, a = .fp g → f.WF ∧ g.WF ∧ (m = .soergel → NonnegFp g)) :
    ∃ r, metricDispatch m a (some (.fp f)) = .ok r ∧ AllZero r := by
  cases a with
  | fp g =>
    obtain ⟨hf, hg, hn⟩ := hfp g rfl
    refine ⟨_, dispatch_fp_fp m g f (Option.some.inj ha), ?_⟩
    exact simFp_empty_right m g f he hg hf hn
  | db d =>
    refine ⟨_, metricDispatch_matrix m (.db d) (.fp f) f.bits ha rfl (Or.inl rfl) ca trivial, ?_⟩
    intro row hrow s hs
    obtain ⟨x, _, rfl⟩ := List.mem_map.1 hrow
    simp only [itemRows, fpRow_of_empty _ f he, List.map_cons, List.map_nil, List.mem_singleton] at hs
    subst hs
    exact simRows_nil m f.bits x [] (Or.inr rfl)

/-- the row measure of an empty row (after the measure's cast) and any row is 0, on either side: in a
database-against-database matrix these are the entries of the row and of the column of an empty database row -/
theorem dispatch_db_db_zero_row (m : Measure) (n : Nat) (s : Row) :
    (simRows m n (castRowO (measureCast m) []) s).IsZero ∧ (simRows m n s (castRowO (measureCast m) [])).IsZero := by
  have : castRowO (measureCast m) [] = [] := by cases measureCast m <;> rfl
  rewrite [this]
  exact ⟨simRows_nil m n [] s (Or.inl rfl), simRows_nil m n s [] (Or.inr rfl)⟩

attribute [local instance] decEqExcept in
/-- The non-negativity in the two-fingerprint Soergel case cannot be dropped: against an empty
fingerprint, a float fingerprint with counts `1, −1` scores `−1` as two fingerprints, and `0` in the
database form. -/
theorem soergel_empty_negative :
    metricDispatch .soergel (.fp ⟨.float, 8, 0, [], []⟩)
      (some (.fp ⟨.float, 8, 0, [0, 1], [(0, 1), (1, -1)]⟩)) = .ok (.inl (.q (-1))) ∧
    metricDispatch .soergel (.fp ⟨.float, 8, 0, [], []⟩)
      (some (.db ((Db.new .float 0 none).add [⟨⟨.float, 8, 0, [0, 1], [(0, 1), (1, -1)]⟩, none, []⟩]).1))
        = .ok (.inr [[.q 0]]) := by
  decide +kernel

/-! ### every route equals the mathematical definition -/

/-- the mathematical definition of each measure on two vectors given as rows -/
def defSim (m : Measure) (n : Nat) (x y : Row) : Sim :=
  match m with
  | .tanimoto => .q (tanimotoDef x y)
  | .dice => .q (diceDef x y)
  | .soergel => .q (soergelDef x y)
  | .cosine => .root (cosineDef x y).1 (cosineDef x y).2
  | .pearson => .root (pearsonDef n x y).1 (pearsonDef n x y).2

/-- the representation of the value in the matrix forms: unchanged, except that the sparse Pearson
route normalises with `n − 1`, which multiplies numerator and radicand by `c` and `c²`,
`c = n/(n−1) > 0` — the same number `num / sqrt rad` (`val_scaleFor` in `Props/C06Real.lean`) -/
def scaleFor (m : Measure) (n : Nat) (s : Sim) : Sim :=
  match m, s with
  | .pearson, .root a r => .root (((n : Rat) / ((n : Rat) - 1)) * a) (((n : Rat) / ((n : Rat) - 1)) ^ 2 * r)
  | _, s => s

/-- the row measure on the rows as cast for it is the definition on the rows as stored (`scaleFor`: the Pearson
pair rescaled).  Tanimoto and Dice need no hypothesis: the definition reads supports, and so does the bit cast -/
theorem simRows_cast_eq_def (m : Measure) (n : Nat) (x y : Row)
    (hx : m = .soergel → SortedRow x ∧ NonnegRow x) (hy : m = .soergel → SortedRow y ∧ NonnegRow y)
    (h2 : m = .pearson → 2 ≤ n) :
    simRows m n (castRowO (measureCast m) x) (castRowO (measureCast m) y) = scaleFor m n (defSim m n x y) := by
  cases m with
  | tanimoto => exact congrArg Sim.q (arrTanimoto_castBit x y)
  | dice => exact congrArg Sim.q (arrDice_castBit x y)
  | soergel => exact congrArg Sim.q (arrSoergelSparse_eq_def_all x y (hx rfl).1 (hy rfl).1 (hx rfl).2 (hy rfl).2)
  | cosine => rfl
  | pearson => exact congrArg (fun p => Sim.root p.1 p.2) (arrPearson_scaled n (h2 rfl) x y)

theorem castRow_bit_of_zeroOne (r : Row) (h : ZeroOne r) : castRow .bit r = r :=
  (List.map_congr_left (g := id) fun p hp =>
    show (p.1, castVal .bit p.2) = p from congrArg (Prod.mk p.1) ((castVal_bit_stable p.2).2 (h p hp))).trans (List.map_id r)

/-- the vectors an operand stands for -/
def storedRows : Item → List Row
  | .fp f => [cntRow f]
  | .db d => d.array.getD []

/-- side conditions under which the rows handed to the row measure are the cast of `storedRows`:
a lone fingerprint under Soergel/cosine/Pearson is stored in its own kind without loss; a database can be
cast; a bit database holds 0/1 values (as every bit database built by the library does) -/
def ItemOK (m : Measure) : Item → Prop
  | .fp f => measureCast m = none → StoredAs f.kind f
  | .db d => Castable (measureCast m) d ∧
      (measureCast m ≠ none → d.fpType = .bit → ∀ r ∈ d.array.getD [], ZeroOne r)

theorem measureCast_cases (m : Measure) : measureCast m = none ∨ measureCast m = some .bit := by
  cases m <;> simp [measureCast]

theorem itemRows_eq_cast (m : Measure) (it : Item) (h : ItemOK m it) :
    itemRows (measureCast m) it = (storedRows it).map (castRowO (measureCast m)) := by
  rcases measureCast_cases m with ht | ht
  · rewrite [ht]
    cases it with
    | fp f => exact congrArg (fun r => [r]) (fpRow_eq_cntRow _ f (h ht))
    | db d => exact (List.map_id _).symm
  · rewrite [ht]
    cases it with
    | fp f => exact congrArg (fun r => [r]) (fpRow_eq_castRow .bit f)
    | db d =>
      simp only [itemRows, storedRows, dbRows]
      by_cases hk : Kind.bit = d.fpType
      · rewrite [if_pos hk]
        have h01 := h.2 (ht ▸ Option.some_ne_none _) hk.symm
        symm
        refine (List.map_congr_left (g := id) ?_).trans (List.map_id _)
        intro r hr
        exact castRow_bit_of_zeroOne r (h01 r hr)
      · rewrite [if_neg hk]; rfl

theorem itemCastable_of_ok (m : Measure) (it : Item) (h : ItemOK m it) : ItemCastable (measureCast m) it := by
  cases it with
  | fp f => trivial
  | db d => exact h.1

/-- **every matrix form returns the definition on the vectors the operands stand for**
(for a lone fingerprint its count vector, for a database its rows as stored) -/
theorem dispatch_eq_def (m : Measure) (a b : Item) (n : Nat)
    (ha : a.bits = some n) (hb : b.bits = some n) (hdb : a.isDb = true ∨ b.isDb = true)
    (oka : ItemOK m a) (okb : ItemOK m b)
    (hs : m = .soergel → ∀ r, r ∈ storedRows a ∨ r ∈ storedRows b → SortedRow r ∧ NonnegRow r)
    (h2 : m = .pearson → 2 ≤ n) :
    metricDispatch m a (some b) =
      .ok (.inr ((storedRows a).map (fun r => (storedRows b).map (fun s => scaleFor m n (defSim m n r s))))) := by
  rewrite [metricDispatch_matrix m a b n ha hb hdb (itemCastable_of_ok m a oka) (itemCastable_of_ok m b okb),
         itemRows_eq_cast m a oka, itemRows_eq_cast m b okb]
  simp only [List.map_map]
  refine congrArg _ (congrArg _ ?_)
  exact map_map_congr _ _ (fun r s => simRows m n (castRowO _ r) (castRowO _ s)) _ (fun r hr s hs' =>
    simRows_cast_eq_def m n r s (fun hm => hs hm r (Or.inl hr)) (fun hm => hs hm s (Or.inr hs')) h2)

theorem rowSupport_cntRow (f : Fp) (hf : f.WF) (h : NoZero f) : rowSupport (cntRow f) = f.idx := by
  unfold rowSupport
  rewrite [rowCols_cntRow f hf]
  exact List.filter_eq_self.2 (fun i hi => by rewrite [rowVal_cntRow f hf]; exact decide_eq_true (h i hi))

/-- **the two-fingerprint form returns the definition on the two count vectors** (Tanimoto/Dice: when
no count is an explicit zero — they read the index arrays; see `explicit_zero_count_routes_differ`) -/
theorem simFp_eq_def (m : Measure) (f g : Fp) (hf : f.WF) (hg : g.WF) (hb : f.bits = g.bits)
    (hz : m = .tanimoto ∨ m = .dice → NoZero f ∧ NoZero g) :
    simFp m f g = defSim m f.bits (cntRow f) (cntRow g) := by
  cases m with
  | tanimoto =>
    obtain ⟨zf, zg⟩ := hz (Or.inl rfl)
    exact congrArg Sim.q (fp_eq_def_of_support f g _ _ (rowSupport_cntRow f hf zf) (rowSupport_cntRow g hg zg)).1
  | dice =>
    obtain ⟨zf, zg⟩ := hz (Or.inr rfl)
    exact congrArg Sim.q (fp_eq_def_of_support f g _ _ (rowSupport_cntRow f hf zf) (rowSupport_cntRow g hg zg)).2
  | soergel => exact congrArg Sim.q (fp_eq_def_soergel f g hf hg)
  | cosine => exact congrArg (fun p => Sim.root p.1 p.2) (fp_eq_def_cosine f g hf hg)
  | pearson => exact congrArg (fun p => Sim.root p.1 p.2) (fp_eq_def_pearson f g hf hg hb)

/-! ### operands built from fingerprints -/

theorem built_db (k : Kind) (lvl : Int) (nm : Option String) (fps : List FpIn)
    (hok : ((Db.new k lvl nm).add fps).2 = none) :
    ((Db.new k lvl nm).add fps).1.array = some (fps.map (fun x => fpRow k x.fp)) ∧
    ((Db.new k lvl nm).add fps).1.fpType = k ∧
    ((Db.new k lvl nm).add fps).1.Inv ∧
    ∀ x ∈ fps, x.fp.bits = ((Db.new k lvl nm).add fps).1.bits := by
  obtain ⟨_, _, h2, _⟩ := (C05.add_ok_iff _ fps).1 hok
  have hi := C05.inv_add _ fps (C05.inv_new k lvl nm) hok
  rewrite [C05.add_ok_eq _ fps hok] at hi ⊢
  exact ⟨rfl, rfl, hi, fun x hx => Decidable.of_not_not fun hne => List.any_eq_false.1 h2 x hx (bne_iff_ne.2 hne)⟩

theorem zeroOne_fpRow_bit (f : Fp) : ZeroOne (fpRow .bit f) := by
  rewrite [fpRow_eq_castRow]; exact zeroOne_castRow_bit _

theorem built_item (m : Measure) (k : Kind) (lvl : Int) (nm : Option String) (fps : List FpIn)
    (hok : ((Db.new k lvl nm).add fps).2 = none) :
    storedRows (.db ((Db.new k lvl nm).add fps).1) = fps.map (fun x => fpRow k x.fp) ∧
    ItemOK m (.db ((Db.new k lvl nm).add fps).1) ∧ (∃ x, x ∈ fps) ∧
    ∀ x ∈ fps, (Item.db ((Db.new k lvl nm).add fps).1).bits = some x.fp.bits := by
  obtain ⟨h1, hk, h3, h4⟩ := built_db k lvl nm fps hok
  refine ⟨congrArg (·.getD []) h1, ⟨castable_of_inv _ _ h3, ?_⟩,
    List.exists_mem_of_ne_nil fps ((C05.add_ok_iff _ fps).1 hok).1, ?_⟩
  · intro _ hbit r hr
    rewrite [h1, Option.getD_some] at hr
    obtain ⟨x, _, rfl⟩ := List.mem_map.1 hr
    rewrite [hk] at hbit; subst hbit
    exact zeroOne_fpRow_bit _
  · intro x hx
    rw [bits_db h1, h4 x hx]

theorem map_fpRow_eq_cntRow (k : Kind) (fps : List FpIn) (h : ∀ x ∈ fps, StoredAs k x.fp) :
    fps.map (fun x => fpRow k x.fp) = fps.map (fun x => cntRow x.fp) :=
  List.map_congr_left (fun x hx => fpRow_eq_cntRow k x.fp (h x hx))

/-- **fingerprint against a database built from fingerprints**, spelled out: entry `j` compares the
vector of `f` (bit dtype for Tanimoto/Dice, own dtype otherwise) with the vector of the `j`-th
fingerprint in the dtype of the database, cast to bit for Tanimoto/Dice -/
theorem dispatch_fp_builtdb (m : Measure) (f : Fp) (k : Kind) (lvl : Int) (nm : Option String)
    (fps : List FpIn) (hok : ((Db.new k lvl nm).add fps).2 = none)
    (hb : ∀ x ∈ fps, f.bits = x.fp.bits) :
    metricDispatch m (.fp f) (some (.db ((Db.new k lvl nm).add fps).1)) =
      .ok (.inr [ fps.map (fun x => simRows m f.bits (fpRow ((measureCast m).getD f.kind) f)
        (castRowO (measureCast m) (fpRow k x.fp))) ]) := by
  obtain ⟨hr, ok, ⟨x0, hx0⟩, hbits⟩ := built_item m k lvl nm fps hok
  rewrite [metricDispatch_matrix m (.fp f) (.db _) f.bits rfl (by rw [hbits x0 hx0, hb x0 hx0]) (Or.inr rfl) trivial ok.1,
         itemRows_eq_cast m _ ok, hr]
  simp only [List.map_map]
  rfl

/-- **fingerprint against a database built from fingerprints = the definition** on the count vector of
the fingerprint and the vectors of the database's fingerprints in the database's dtype
(`fpRow k g = cntRow g` when `StoredAs k g`, `fpRow_eq_cntRow`).  No condition about explicit zeros:
the database forms follow the definition on supports. -/
theorem dispatch_fp_builtdb_eq_def (m : Measure) (f : Fp) (k : Kind) (lvl : Int) (nm : Option String)
    (fps : List FpIn) (hok : ((Db.new k lvl nm).add fps).2 = none)
    (hb : ∀ x ∈ fps, f.bits = x.fp.bits) (hf : f.WF) (hfs : ∀ x ∈ fps, x.fp.WF)
    (sf : measureCast m = none → StoredAs f.kind f)
    (hn : m = .soergel → NonnegFp f ∧ ∀ x ∈ fps, NonnegRow (fpRow k x.fp))
    (h2 : m = .pearson → 2 ≤ f.bits) :
    metricDispatch m (.fp f) (some (.db ((Db.new k lvl nm).add fps).1)) =
      .ok (.inr [ fps.map (fun x => scaleFor m f.bits (defSim m f.bits (cntRow f) (fpRow k x.fp))) ]) := by
  obtain ⟨hrows, okb, ⟨x0, hx0⟩, hbits⟩ := built_item m k lvl nm fps hok
  rewrite [dispatch_eq_def m (.fp f) _ f.bits rfl (by rw [hbits x0 hx0, hb x0 hx0]) (Or.inr rfl) sf okb ?_ h2, hrows]
  · exact congrArg (fun l => Except.ok (Sum.inr [l])) List.map_map
  · intro hm r hr
    obtain ⟨nf, nfs⟩ := hn hm
    rcases hr with hr | hr
    · simp only [storedRows, List.mem_singleton] at hr
      subst hr
      exact ⟨sortedRow_cntRow f hf, nonnegRow_cntRow f nf⟩
    · rewrite [hrows] at hr
      obtain ⟨x, hx, rfl⟩ := List.mem_map.1 hr
      exact ⟨sortedRow_fpRow k x.fp (hfs x hx), nfs x hx⟩

/-! ### operands that present one fingerprint -/

/-- the operand presents the single fingerprint `f`, held in a vector of kind `k`: `f` itself
(`k` its own kind), or a database of kind `k` whose one row is the vector of `f` -/
inductive Presents : Item → Fp → Kind → Prop
  | fp (f : Fp) : Presents (.fp f) f f.kind
  | db (d : Db) (f : Fp) (ha : d.array = some [fpRow d.fpType f]) (hb : d.bits = f.bits) :
      Presents (.db d) f d.fpType

/-- the database `add_fingerprints([g])` makes of one fingerprint presents it -/
theorem presents_single (k : Kind) (nm : Option String) (x : FpIn) :
    ((Db.new k x.fp.level nm).add [x]).2 = none ∧
    Presents (.db ((Db.new k x.fp.level nm).add [x]).1) x.fp k ∧
    ((Db.new k x.fp.level nm).add [x]).1.Inv := by
  have hok : ((Db.new k x.fp.level nm).add [x]).2 = none := by
    rewrite [C05.add_ok_iff]
    refine ⟨List.cons_ne_nil _ _, by simp [Db.badLevel, Db.new], by simp [Db.badBits, Db.expectedBits, Db.fpNum, Db.new], ?_⟩
    simp only [Db.badProps, Db.expectedProps, Db.fpNum, Db.new, List.any_cons, List.any_nil, Bool.or_false,
      Nat.lt_irrefl, List.head?_cons, Option.map_some, Option.getD_some]
    rewrite [List.any_eq_false]
    intro key hkey
    obtain ⟨c, hc, rfl⟩ := List.mem_map.1 hkey
    exact fun hn => propLookup_ne_none_of_mem x.props c.1 (List.mem_map_of_mem hc) (Option.isNone_iff_eq_none.1 hn)
  obtain ⟨h1, h2, h3, h4⟩ := built_db k x.fp.level nm [x] hok
  refine ⟨hok, ?_, h3⟩
  have hp := Presents.db ((Db.new k x.fp.level nm).add [x]).1 x.fp (by rewrite [h1, h2]; rfl)
    (h4 x (List.mem_cons_self ..)).symm
  rewrite [h2] at hp
  exact hp

/-- what an operand that presents `f` hands to `dispatch_routes` -/
theorem presents_item (m : Measure) (it : Item) (f : Fp) (k : Kind) (hp : Presents it f k)
    (hc : ItemCastable (measureCast m) it) (hs : StoredAs k f) :
    it.bits = some f.bits ∧ ItemOK m it ∧ storedRows it = [cntRow f] := by
  cases hp with
  | fp => exact ⟨rfl, fun _ => hs, rfl⟩
  | db d _ ha hb =>
    refine ⟨by rw [bits_db ha, hb], ⟨hc, fun _ hbit r hr => ?_⟩, ?_⟩
    · rewrite [ha, Option.getD_some, List.mem_singleton] at hr
      rewrite [hr, hbit]; exact zeroOne_fpRow_bit f
    · simp only [storedRows, ha, Option.getD_some]; rw [fpRow_eq_cntRow _ f hs]

/-! ### every calling form gives the value of the two-fingerprint form: both are the definition on the
count vectors (`dispatch_eq_def`, `simFp_eq_def`) -/

/-- the value the matrix forms return for the pair `(f, g)`, in terms of the two-fingerprint form:
the same `Sim` for Tanimoto, Dice, Soergel and cosine; for Pearson the pair scaled by `c`, `c²`
(`c = b/(b−1) > 0`), which denotes the same number `num / sqrt rad` -/
def matrixEntry (m : Measure) (f g : Fp) : Sim :=
  match m with
  | .pearson =>
    let p := fpPearson f g
    let c : Rat := (f.bits : Rat) / ((f.bits : Rat) - 1)
    .root (c * p.1) (c ^ 2 * p.2)
  | _ => simFp m f g

theorem matrixEntry_eq_scale (m : Measure) (f g : Fp) :
    matrixEntry m f g = scaleFor m f.bits (simFp m f g) := by
  cases m <;> rfl

/-- **the matrix is the table of the two-fingerprint values** whenever the vectors the operands stand
for are the count vectors of two families of fingerprints (`φ`, `ψ` pick the fingerprint out of a list
entry) -/
theorem dispatch_routes {α β : Type} (m : Measure) (a b : Item) (n : Nat) (fs : List α) (gs : List β)
    (φ : α → Fp) (ψ : β → Fp)
    (ha : a.bits = some n) (hb : b.bits = some n) (hdb : a.isDb = true ∨ b.isDb = true)
    (oka : ItemOK m a) (okb : ItemOK m b)
    (ra : storedRows a = fs.map (fun x => cntRow (φ x))) (rb : storedRows b = gs.map (fun y => cntRow (ψ y)))
    (hfs : ∀ x ∈ fs, (φ x).WF ∧ (φ x).bits = n) (hgs : ∀ y ∈ gs, (ψ y).WF ∧ (ψ y).bits = n)
    (hz : m = .tanimoto ∨ m = .dice → (∀ x ∈ fs, NoZero (φ x)) ∧ ∀ y ∈ gs, NoZero (ψ y))
    (hn : m = .soergel → (∀ x ∈ fs, NonnegFp (φ x)) ∧ ∀ y ∈ gs, NonnegFp (ψ y))
    (h2 : m = .pearson → 2 ≤ n) :
    metricDispatch m a (some b) =
      .ok (.inr (fs.map (fun x => gs.map (fun y => matrixEntry m (φ x) (ψ y))))) := by
  rewrite [dispatch_eq_def m a b n ha hb hdb oka okb ?_ h2, ra, rb]
  · simp only [List.map_map]
    refine congrArg _ (congrArg _ ?_)
    refine map_map_congr _ _ (fun x y => scaleFor m n (defSim m n (cntRow (φ x)) (cntRow (ψ y)))) _
      (fun x hx y hy => ?_)
    rw [← (hfs x hx).2, matrixEntry_eq_scale, simFp_eq_def m _ _ (hfs x hx).1 (hgs y hy).1
      ((hfs x hx).2.trans (hgs y hy).2.symm) (fun h => ⟨(hz h).1 x hx, (hz h).2 y hy⟩)]
  · intro hm r hr
    rewrite [ra, rb] at hr
    rcases hr with hr | hr
    · obtain ⟨x, hx, rfl⟩ := List.mem_map.1 hr
      exact ⟨sortedRow_cntRow _ (hfs x hx).1, nonnegRow_cntRow _ ((hn hm).1 x hx)⟩
    · obtain ⟨y, hy, rfl⟩ := List.mem_map.1 hr
      exact ⟨sortedRow_cntRow _ (hgs y hy).1, nonnegRow_cntRow _ ((hn hm).2 y hy)⟩

/-- **Routes agree** — the headline.  `a` and `b` each present one fingerprint (`f`, `g`), at least one
of them as a database: the public function returns the 1×1 matrix whose entry is `matrixEntry m f g`,
i.e. the value `metricDispatch m (.fp f) (some (.fp g))` returns (`dispatch_fp_fp`), with the Pearson
pair rescaled by a positive factor that cancels in `num / sqrt rad`.

Hypotheses: well-formed fingerprints of equal length; the stored vectors hold the counts unchanged
(`StoredAs`: automatic for bit and float fingerprints in databases of their own kind, integrality
for count fingerprints); Tanimoto/Dice: no explicit zero counts; Soergel: non-negative counts;
Pearson: at least two positions; a database operand that needs the bit cast passes `from_array`'s
column check (`Castable`, implied by `Db.Inv`). -/
theorem routes_agree (m : Measure) (a b : Item) (f g : Fp) (ka kb : Kind)
    (pa : Presents a f ka) (pb : Presents b g kb)
    (hf : f.WF) (hg : g.WF) (hb : f.bits = g.bits)
    (hdb : a.isDb = true ∨ b.isDb = true)
    (ca : ItemCastable (measureCast m) a) (cb : ItemCastable (measureCast m) b)
    (sf : StoredAs ka f) (sg : StoredAs kb g)
    (hz : m = .tanimoto ∨ m = .dice → NoZero f ∧ NoZero g)
    (hn : m = .soergel → NonnegFp f ∧ NonnegFp g) (h2 : m = .pearson → 2 ≤ f.bits) :
    metricDispatch m a (some b) = .ok (.inr [[ matrixEntry m f g ]]) ∧
    metricDispatch m (.fp f) (some (.fp g)) = .ok (.inl (simFp m f g)) := by
  obtain ⟨ba, oka, ra⟩ := presents_item m a f ka pa ca sf
  obtain ⟨bb, okb, rb⟩ := presents_item m b g kb pb cb sg
  exact ⟨dispatch_routes m a b f.bits [f] [g] id id ba (by rw [bb, hb]) hdb oka okb ra rb
      (List.forall_mem_singleton.2 ⟨hf, rfl⟩) (List.forall_mem_singleton.2 ⟨hg, hb.symm⟩)
      (by simpa only [List.forall_mem_singleton, id] using hz) (by simpa only [List.forall_mem_singleton, id] using hn) h2,
    dispatch_fp_fp m f g hb⟩

/-- **fingerprint against a database of fingerprints = the list of the two-fingerprint values**:
entry `j` is `matrixEntry m f gⱼ`, the value of `metricDispatch m (.fp f) (some (.fp gⱼ))` -/
theorem dispatch_fp_builtdb_routes (m : Measure) (f : Fp) (k : Kind) (lvl : Int) (nm : Option String)
    (fps : List FpIn) (hok : ((Db.new k lvl nm).add fps).2 = none)
    (hb : ∀ x ∈ fps, f.bits = x.fp.bits) (hf : f.WF) (hfs : ∀ x ∈ fps, x.fp.WF)
    (sf : measureCast m = none → StoredAs f.kind f) (sfs : ∀ x ∈ fps, StoredAs k x.fp)
    (hz : m = .tanimoto ∨ m = .dice → NoZero f ∧ ∀ x ∈ fps, NoZero x.fp)
    (hn : m = .soergel → NonnegFp f ∧ ∀ x ∈ fps, NonnegFp x.fp)
    (h2 : m = .pearson → 2 ≤ f.bits) :
    metricDispatch m (.fp f) (some (.db ((Db.new k lvl nm).add fps).1)) =
      .ok (.inr [ fps.map (fun x => matrixEntry m f x.fp) ]) := by
  obtain ⟨hr, ok, ⟨x0, hx0⟩, hbits⟩ := built_item m k lvl nm fps hok
  exact dispatch_routes m (.fp f) _ f.bits [f] fps id (·.fp) rfl (by rw [hbits x0 hx0, hb x0 hx0])
    (Or.inr rfl) sf ok rfl (hr.trans (map_fpRow_eq_cntRow k fps sfs)) (List.forall_mem_singleton.2 ⟨hf, rfl⟩)
    (fun x hx => ⟨hfs x hx, (hb x hx).symm⟩)
    (fun h => ⟨List.forall_mem_singleton.2 (hz h).1, (hz h).2⟩)
    (fun h => ⟨List.forall_mem_singleton.2 (hn h).1, (hn h).2⟩) h2

/-- **database against database = the table of the two-fingerprint values** -/
theorem dispatch_builtdb_builtdb_routes (m : Measure) (k k' : Kind) (lvl lvl' : Int) (nm nm' : Option String)
    (fps gps : List FpIn) (hok : ((Db.new k lvl nm).add fps).2 = none)
    (hok' : ((Db.new k' lvl' nm').add gps).2 = none)
    (hb : ∀ x ∈ fps, ∀ y ∈ gps, x.fp.bits = y.fp.bits)
    (hfs : ∀ x ∈ fps, x.fp.WF) (hgs : ∀ y ∈ gps, y.fp.WF)
    (sfs : ∀ x ∈ fps, StoredAs k x.fp) (sgs : ∀ y ∈ gps, StoredAs k' y.fp)
    (hz : m = .tanimoto ∨ m = .dice → (∀ x ∈ fps, NoZero x.fp) ∧ ∀ y ∈ gps, NoZero y.fp)
    (hn : m = .soergel → (∀ x ∈ fps, NonnegFp x.fp) ∧ ∀ y ∈ gps, NonnegFp y.fp)
    (h2 : m = .pearson → ∀ x ∈ fps, 2 ≤ x.fp.bits) :
    metricDispatch m (.db ((Db.new k lvl nm).add fps).1) (some (.db ((Db.new k' lvl' nm').add gps).1)) =
      .ok (.inr (fps.map (fun x => gps.map (fun y => matrixEntry m x.fp y.fp)))) := by
  obtain ⟨hr, ok, ⟨x0, hx0⟩, hbits⟩ := built_item m k lvl nm fps hok
  obtain ⟨hr', ok', ⟨y0, hy0⟩, hbits'⟩ := built_item m k' lvl' nm' gps hok'
  have hbx : ∀ x ∈ fps, x.fp.bits = x0.fp.bits := fun x hx => (hb x hx y0 hy0).trans (hb x0 hx0 y0 hy0).symm
  exact dispatch_routes m _ _ x0.fp.bits fps gps (·.fp) (·.fp) (hbits x0 hx0)
    (by rw [hbits' y0 hy0, hb x0 hx0 y0 hy0]) (Or.inl rfl) ok ok'
    (hr.trans (map_fpRow_eq_cntRow k fps sfs)) (hr'.trans (map_fpRow_eq_cntRow k' gps sgs))
    (fun x hx => ⟨hfs x hx, hbx x hx⟩) (fun y hy => ⟨hgs y hy, (hb x0 hx0 y hy).symm⟩)
    hz hn (fun h => h2 h x0 hx0)

/-- a single database holding one fingerprint, compared with itself (`B=None`) -/
theorem routes_agree_single (m : Measure) (d : Db) (f : Fp) (k : Kind) (pd : Presents (.db d) f k)
    (hf : f.WF) (cd : Castable (measureCast m) d) (sf : StoredAs k f)
    (hz : m = .tanimoto ∨ m = .dice → NoZero f) (hn : m = .soergel → NonnegFp f)
    (h2 : m = .pearson → 2 ≤ f.bits) :
    metricDispatch m (.db d) none = .ok (.inr [[ matrixEntry m f f ]]) := by
  rewrite [metricDispatch_none]
  exact (routes_agree m (.db d) (.db d) f f k k pd pd hf hf rfl (Or.inl rfl) cd cd sf sf
    (fun h => ⟨hz h, hz h⟩) (fun h => ⟨hn h, hn h⟩) h2).1

/-! ### the hypotheses of `routes_agree` cannot be dropped: witnesses -/

def witZeroCount : Fp := ⟨.count, 8, 0, [1, 2], [(1, 0), (2, 3)]⟩
def witBit2 : Fp := ⟨.bit, 8, 0, [2], []⟩
def witPos : Fp := ⟨.float, 8, 0, [0], [(0, 1)]⟩
def witNeg : Fp := ⟨.float, 8, 0, [1], [(1, -1)]⟩

theorem wit_wf : witZeroCount.WF ∧ witBit2.WF ∧ witPos.WF ∧ witNeg.WF := by
  unfold Fp.WF; decide +kernel

attribute [local instance] decEqExcept in
/-- **An explicit zero count.**  A count fingerprint that lists position 1 with count 0 (well-formed:
`CountFingerprint(counts={1: 0, 2: 3})`) counts position 1 as set in the two-fingerprint Tanimoto and
Dice (they read the index array), but not in any database form (the bit cast of the stored 0 is 0):
`1/2` against `1`, `2/3` against `1`. -/
theorem explicit_zero_count_routes_differ :
    metricDispatch .tanimoto (.fp witZeroCount) (some (.fp witBit2)) = .ok (.inl (.q (1 / 2))) ∧
    metricDispatch .tanimoto (.fp witZeroCount)
      (some (.db ((Db.new .bit 0 none).add [⟨witBit2, none, []⟩]).1)) = .ok (.inr [[.q 1]]) ∧
    metricDispatch .dice (.fp witZeroCount) (some (.fp witBit2)) = .ok (.inl (.q (2 / 3))) ∧
    metricDispatch .dice (.fp witZeroCount)
      (some (.db ((Db.new .bit 0 none).add [⟨witBit2, none, []⟩]).1)) = .ok (.inr [[.q 1]]) := by
  decide +kernel

attribute [local instance] decEqExcept in
/-- **Negative counts under Soergel.**  Two float fingerprints `{0: 1}` and `{1: −1}`: the
two-fingerprint form follows the definition (`1 − 2/1 = −1`), the sparse merge kernel of the database
form adds unmatched values as they stand (`sum_max = 0`, result `0`). -/
theorem negative_count_soergel_routes_differ :
    metricDispatch .soergel (.fp witPos) (some (.fp witNeg)) = .ok (.inl (.q (-1))) ∧
    metricDispatch .soergel (.fp witPos)
      (some (.db ((Db.new .float 0 none).add [⟨witNeg, none, []⟩]).1)) = .ok (.inr [[.q 0]]) := by
  decide +kernel

attribute [local instance] decEqExcept in
/-- **Lossy storage.**  A float fingerprint `{0: 1/2}` held in a *count* database is stored as an
explicit 0 (`int(0.5)`), so Tanimoto against the bit fingerprint `{0}` is 0 instead of 1; held in a
float database the bit cast sees a non-zero value and the routes agree. -/
theorem lossy_storage_routes_differ :
    let f : Fp := ⟨.bit, 8, 0, [0], []⟩
    let g : Fp := ⟨.float, 8, 0, [0], [(0, 1 / 2)]⟩
    metricDispatch .tanimoto (.fp f) (some (.fp g)) = .ok (.inl (.q 1)) ∧
    metricDispatch .tanimoto (.fp f) (some (.db ((Db.new .count 0 none).add [⟨g, none, []⟩]).1))
      = .ok (.inr [[.q 0]]) ∧
    metricDispatch .tanimoto (.fp f) (some (.db ((Db.new .float 0 none).add [⟨g, none, []⟩]).1))
      = .ok (.inr [[.q 1]]) := by
  decide +kernel

/-! ### non-vacuity: the theorems applied to concrete operands -/

/-- count fingerprint `{1: 3, 2: 1}` -/
def exCount : Fp := ⟨.count, 8, 0, [1, 2], [(1, 3), (2, 1)]⟩
/-- bit fingerprint `{2, 5}` -/
def exBit : Fp := ⟨.bit, 8, 0, [2, 5], []⟩
/-- float fingerprint `{2: 1/2, 7: 4}` -/
def exFloat : Fp := ⟨.float, 8, 0, [2, 7], [(2, 1 / 2), (7, 4)]⟩
/-- the empty count fingerprint -/
def exEmpty : Fp := ⟨.count, 8, 0, [], []⟩

theorem ex_wf : exCount.WF ∧ exBit.WF ∧ exFloat.WF ∧ exEmpty.WF := by unfold Fp.WF; decide +kernel

theorem ex_storedAs : StoredAs .count exCount ∧ StoredAs .bit exBit ∧ StoredAs .float exFloat := by
  refine ⟨storedAs_own_count exCount rfl ?_, storedAs_bit .bit exBit rfl, storedAs_float exFloat⟩
  intro i hi
  simp only [exCount, List.mem_cons, List.not_mem_nil, or_false] at hi
  rcases hi with rfl | rfl
  · exact ⟨3, by decide +kernel⟩
  · exact ⟨1, by decide +kernel⟩

theorem ex_noZero : NoZero exCount ∧ NoZero exBit ∧ NoZero exFloat :=
  ⟨by unfold NoZero; decide +kernel, noZero_bit exBit rfl, by unfold NoZero; decide +kernel⟩

theorem ex_nonneg : NonnegFp exCount ∧ NonnegFp exBit ∧ NonnegFp exFloat :=
  ⟨by unfold NonnegFp; decide +kernel, nonneg_bit exBit rfl, by unfold NonnegFp; decide +kernel⟩

/-- a count database of two fingerprints (the second one a bit fingerprint, stored as counts) -/
def exDb : Db := ((Db.new .count 0 (some "db")).add [⟨exCount, some "a", []⟩, ⟨exBit, some "b", []⟩]).1

theorem exDb_ok : ((Db.new .count 0 (some "db")).add [⟨exCount, some "a", []⟩, ⟨exBit, some "b", []⟩]).2 = none := by
  decide +kernel

theorem exDb_facts : exDb.array = some [fpRow .count exCount, fpRow .count exBit] ∧ exDb.Inv ∧ exDb.bits = 8 := by
  obtain ⟨h1, _, h3, h4⟩ := built_db .count 0 (some "db") _ exDb_ok
  exact ⟨h1, h3, (h4 ⟨exCount, some "a", []⟩ (List.mem_cons_self ..)).symm⟩

example (m : Measure) : metricDispatch m (.fp exFloat) (some (.db exDb)) =
    .ok (.inr [ (dbRows (measureCast m) exDb).map
      (fun s => simRows m 8 (fpRow ((measureCast m).getD .float) exFloat) s) ]) :=
  dispatch_fp_db m exFloat exDb _ exDb_facts.1 exDb_facts.2.2.symm (castable_of_inv _ _ exDb_facts.2.1)

example (m : Measure) : metricDispatch m (.db exDb) (some (.fp exFloat)) =
    .ok (.inr ((dbRows (measureCast m) exDb).map
      (fun r => [ simRows m exDb.bits r (fpRow ((measureCast m).getD .float) exFloat) ]))) :=
  dispatch_db_fp m exFloat exDb _ exDb_facts.1 exDb_facts.2.2 (castable_of_inv _ _ exDb_facts.2.1)

example (m : Measure) : metricDispatch m (.db exDb) none = metricDispatch m (.db exDb) (some (.db exDb)) :=
  dispatch_single m exDb _ exDb_facts.1 (castable_of_inv _ _ exDb_facts.2.1)

example (m : Measure) : metricDispatch m (.fp exFloat) (some (.db exDb)) =
    .ok (.inr [ [ simRows m 8 (fpRow ((measureCast m).getD .float) exFloat) (castRowO (measureCast m) (fpRow .count exCount)),
                  simRows m 8 (fpRow ((measureCast m).getD .float) exFloat) (castRowO (measureCast m) (fpRow .count exBit)) ] ]) :=
  dispatch_fp_builtdb m exFloat .count 0 (some "db") _ exDb_ok (forall_mem_pair rfl rfl)

/-- a count fingerprint against a float fingerprint stored alone in a float database (Tanimoto/Dice: the bit
cast of the database agrees with the index sets) -/
example (m : Measure) :
    metricDispatch m (.fp exCount) (some (.db ((Db.new .float 0 none).add [⟨exFloat, none, []⟩]).1))
      = .ok (.inr [[ matrixEntry m exCount exFloat ]]) ∧
    metricDispatch m (.fp exCount) (some (.fp exFloat)) = .ok (.inl (simFp m exCount exFloat)) := by
  obtain ⟨_, hp, hi⟩ := presents_single .float none ⟨exFloat, none, []⟩
  exact routes_agree m _ _ exCount exFloat .count .float (Presents.fp exCount) hp ex_wf.1 ex_wf.2.2.1 rfl
    (Or.inr rfl) trivial (castable_of_inv _ _ hi) ex_storedAs.1 ex_storedAs.2.2
    (fun _ => ⟨ex_noZero.1, ex_noZero.2.2⟩) (fun _ => ⟨ex_nonneg.1, ex_nonneg.2.2⟩) (fun _ => by decide)

/-- the same with both operands as databases of different kinds -/
example (m : Measure) :
    metricDispatch m (.db ((Db.new .count 0 none).add [⟨exCount, none, []⟩]).1)
      (some (.db ((Db.new .bit 0 none).add [⟨exBit, none, []⟩]).1))
      = .ok (.inr [[ matrixEntry m exCount exBit ]]) := by
  obtain ⟨_, hp, hi⟩ := presents_single .count none ⟨exCount, none, []⟩
  obtain ⟨_, hp', hi'⟩ := presents_single .bit none ⟨exBit, none, []⟩
  exact (routes_agree m _ _ exCount exBit .count .bit hp hp' ex_wf.1 ex_wf.2.1 rfl
    (Or.inl rfl) (castable_of_inv _ _ hi) (castable_of_inv _ _ hi') ex_storedAs.1 ex_storedAs.2.1
    (fun _ => ⟨ex_noZero.1, ex_noZero.2.1⟩) (fun _ => ⟨ex_nonneg.1, ex_nonneg.2.1⟩) (fun _ => by decide)).1

/-- the single-database form -/
example (m : Measure) :
    metricDispatch m (.db ((Db.new .count 0 none).add [⟨exCount, none, []⟩]).1) none
      = .ok (.inr [[ matrixEntry m exCount exCount ]]) := by
  obtain ⟨_, hp, hi⟩ := presents_single .count none ⟨exCount, none, []⟩
  exact routes_agree_single m _ exCount .count hp ex_wf.1 (castable_of_inv _ _ hi) ex_storedAs.1
    (fun _ => ex_noZero.1) (fun _ => ex_nonneg.1) (fun _ => by decide)

attribute [local instance] decEqExcept in
/-- the concrete values: Tanimoto of `{1,2}` and `{2,7}` is `1/3` by both routes; the Pearson pairs differ
by the factor `8/7` and its square -/
example :
    metricDispatch .tanimoto (.fp exCount) (some (.fp exFloat)) = .ok (.inl (.q (1 / 3))) ∧
    metricDispatch .tanimoto (.fp exCount) (some (.db ((Db.new .float 0 none).add [⟨exFloat, none, []⟩]).1))
      = .ok (.inr [[.q (1 / 3)]]) ∧
    metricDispatch .pearson (.fp exCount) (some (.fp exFloat)) = .ok (.inl (.root (-7 / 32) (439 / 256))) ∧
    metricDispatch .pearson (.fp exCount) (some (.db ((Db.new .float 0 none).add [⟨exFloat, none, []⟩]).1))
      = .ok (.inr [[.root (8 / 7 * (-7 / 32)) ((8 / 7) ^ 2 * (439 / 256))]]) := by
  decide +kernel

theorem exBit_storedAs_count : StoredAs .count exBit := storedAs_bit .count exBit rfl

example (m : Measure) : metricDispatch m (.fp exFloat) (some (.db exDb)) =
    .ok (.inr [ [ scaleFor m 8 (defSim m 8 (cntRow exFloat) (cntRow exCount)),
                  scaleFor m 8 (defSim m 8 (cntRow exFloat) (cntRow exBit)) ] ]) := by
  have h := dispatch_fp_builtdb_eq_def m exFloat .count 0 (some "db") _ exDb_ok
    (forall_mem_pair rfl rfl) ex_wf.2.2.1
    (forall_mem_pair ex_wf.1 ex_wf.2.1)
    (fun _ => ex_storedAs.2.2)
    (fun _ => ⟨ex_nonneg.2.2, forall_mem_pair
      (by rewrite [fpRow_eq_cntRow _ _ ex_storedAs.1]; exact nonnegRow_cntRow _ ex_nonneg.1)
      (by rewrite [fpRow_eq_cntRow _ _ exBit_storedAs_count]; exact nonnegRow_cntRow _ ex_nonneg.2.1)⟩)
    (fun _ => by decide)
  simp only [List.map_cons, List.map_nil] at h
  rewrite [fpRow_eq_cntRow .count exCount ex_storedAs.1, fpRow_eq_cntRow .count exBit exBit_storedAs_count] at h
  exact h

/-- a float fingerprint against a count database holding a count and a bit fingerprint -/
example (m : Measure) : metricDispatch m (.fp exFloat) (some (.db exDb)) =
    .ok (.inr [ [ matrixEntry m exFloat exCount, matrixEntry m exFloat exBit ] ]) :=
  dispatch_fp_builtdb_routes m exFloat .count 0 (some "db") _ exDb_ok
    (forall_mem_pair rfl rfl) ex_wf.2.2.1
    (forall_mem_pair ex_wf.1 ex_wf.2.1)
    (fun _ => ex_storedAs.2.2)
    (forall_mem_pair ex_storedAs.1 exBit_storedAs_count)
    (fun _ => ⟨ex_noZero.2.2, forall_mem_pair ex_noZero.1 ex_noZero.2.1⟩)
    (fun _ => ⟨ex_nonneg.2.2, forall_mem_pair ex_nonneg.1 ex_nonneg.2.1⟩)
    (fun _ => by decide)

example (m : Measure) : simFp m exCount exFloat = defSim m 8 (cntRow exCount) (cntRow exFloat) :=
  simFp_eq_def m exCount exFloat ex_wf.1 ex_wf.2.2.1 rfl (fun _ => ⟨ex_noZero.1, ex_noZero.2.2⟩)

example (m : Measure) : ∃ r, metricDispatch m (.fp exEmpty) (some (.db exDb)) = .ok r ∧ AllZero r :=
  dispatch_zero_denominator m exEmpty rfl (.db exDb) (by rewrite [bits_db exDb_facts.1, exDb_facts.2.2]; rfl)
    (castable_of_inv _ _ exDb_facts.2.1) (fun g h => by cases h)

example (m : Measure) : ∃ r, metricDispatch m (.fp exEmpty) (some (.fp exFloat)) = .ok r ∧ AllZero r :=
  dispatch_zero_denominator m exEmpty rfl (.fp exFloat) rfl trivial
    (fun g h => by cases h; exact ⟨ex_wf.2.2.2, ex_wf.2.2.1, fun _ => ex_nonneg.2.2⟩)

end E3fpVerif.Props.C06
