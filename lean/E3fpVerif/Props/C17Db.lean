import E3fpVerif.Model.Db
import E3fpVerif.Lemmas.DbCast
import E3fpVerif.Props.C05
/-!
# C17 — converting whole databases between kinds preserves the non-zero positions and, where representable, the values

`db.as_type(T)` re-casts every stored entry with `castVal T`.  For every database (any stored matrix, also with negative
entries, explicit zeros, unsorted rows), every row and every column:

* to the **bit** kind: the entry is 1 exactly where the stored value is non-zero (`asType_bit_entry`) - negative values are
  non-zero positions like any other;
* to the **float** kind: every value is kept (`asType_float_entry`);
* to the **count** kind: a whole-number value is kept (`asType_count_entry_int`); a value is non-zero afterwards exactly when
  its integer part is (`asType_count_nonzero` - "where representable": 1/2 has no count).
-/
namespace E3fpVerif.Props.C17Db
open E3fpVerif

/-- the matrix of the converted database: every stored entry re-cast, row by row, position by position -/
theorem asType_rows (db d : Db) (a : List Row) (k : Kind) (ha : db.array = some a) (h : db.asType k = .ok d) :
    d.array = some (a.map (fun r => r.map (fun p => (p.1, castVal k p.2)))) ∧ d.fpType = k ∧ d.bits = db.bits ∧
      d.level = db.level ∧ d.fpNames = db.fpNames := by
  obtain ⟨a', ha', _, rfl⟩ := (Props.C05.asType_eq_ok db k d).1 h
  cases ha.symm.trans ha'
  exact ⟨rfl, rfl, rfl, rfl, rfl⟩

/-- row `i` of the converted database is row `i` of the source with every entry re-cast: same length, same columns, in
the same storage order -/
theorem asType_row (db d : Db) (a : List Row) (k : Kind) (ha : db.array = some a) (h : db.asType k = .ok d)
    (i : Nat) (r : Row) (hr : a[i]? = some r) :
    ∃ a', d.array = some a' ∧ a'[i]? = some (r.map (fun p => (p.1, castVal k p.2))) := by
  refine ⟨_, (asType_rows db d a k ha h).1, ?_⟩
  rw [List.getElem?_map, hr, Option.map_some]

/-! What the re-cast of `asType_rows` does to one stored entry, kind by kind (statements about `castVal`). -/

/-- to the bit kind: 1 exactly on the non-zero entries (whatever their sign) -/
theorem asType_bit_entry (v : Rat) : castVal .bit v = (if v ≠ 0 then 1 else 0) := by
  unfold castVal; by_cases h : v = 0 <;> simp [h]

theorem asType_bit_nonzero (v : Rat) : castVal .bit v ≠ 0 ↔ v ≠ 0 :=
  castVal_bit_ne_zero v

/-- to the float kind: every value is kept -/
theorem asType_float_entry (v : Rat) : castVal .float v = v := rfl

/-- to the count kind: whole numbers are kept -/
theorem asType_count_entry_int (n : Int) : castVal .count (n : Rat) = (n : Rat) := by
  unfold castVal; exact truncQ_intCast n

/-- ... and a value has a non-zero count exactly when its integer part is non-zero -/
theorem asType_count_nonzero (v : Rat) : castVal .count v ≠ 0 ↔ truncQ v ≠ 0 := by
  unfold castVal; rfl

theorem castVal_nonzero (k : Kind) (hk : k ≠ .count) (v : Rat) : (castVal k v ≠ 0) ↔ (v ≠ 0) := by
  cases k with
  | bit => exact asType_bit_nonzero v
  | count => exact absurd rfl hk
  | float => exact Iff.rfl

/-- re-casting a row to the bit or float kind keeps its non-zero columns, in storage order -/
theorem support_cast (k : Kind) (hk : k ≠ .count) (r : Row) :
    ((r.map (fun p => (p.1, castVal k p.2))).filter (fun p => decide (p.2 ≠ 0))).map Prod.fst =
      (r.filter (fun p => decide (p.2 ≠ 0))).map Prod.fst := by
  rewrite [List.filter_map, List.map_map]
  exact congrArg _ (List.filter_congr fun p _ => decide_eq_decide.2 (castVal_nonzero k hk p.2))

/-- **the set of non-zero positions of every row is preserved** by a conversion to the bit or float kind -/
theorem asType_support (db d : Db) (a : List Row) (k : Kind) (hk : k ≠ .count) (ha : db.array = some a)
    (h : db.asType k = .ok d) (i : Nat) (r : Row) (hr : a[i]? = some r) :
    ∃ a' r', d.array = some a' ∧ a'[i]? = some r' ∧
      (r'.filter (fun p => decide (p.2 ≠ 0))).map Prod.fst = (r.filter (fun p => decide (p.2 ≠ 0))).map Prod.fst := by
  obtain ⟨a', ha', hr'⟩ := asType_row db d a k ha h i r hr
  exact ⟨a', _, ha', hr', support_cast k hk r⟩

/-- non-vacuity: a float database holding a difference fingerprint (negative entries) and an explicit zero -/
def exDb : Db := { fpType := .float, level := 5, name := none, array := some [[(3, -1), (7, (1 : Rat) / 2), (9, 0), (12, 4)]], bits := 16,
                   fpNames := [some "d"], namesMap := updateNamesMap [] [some "d"] 0, props := [] }

example : ∃ d, exDb.asType .bit = .ok d ∧ d.array = some [[(3, 1), (7, 1), (9, 0), (12, 1)]] := by
  refine ⟨_, rfl, ?_⟩; decide +kernel

example : ∃ d, exDb.asType .count = .ok d ∧ d.array = some [[(3, -1), (7, 0), (9, 0), (12, 4)]] := by
  refine ⟨_, rfl, ?_⟩; decide +kernel

end E3fpVerif.Props.C17Db
