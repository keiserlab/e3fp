import E3fpVerif.Lemmas.DbHistOps
/-!
# C05 (histories) — every history of database operations refines the list-of-rows specification

`Model/DbHist.lean` has the operation language (`DbOp`), its execution on the operational model (`stepOp`, `runOps`:
CSR rows, name list, separately maintained name index, property columns), the specification (`SDb`: a database is a
list of rows; `specStep`, `runSpec`) and the abstraction (`Db.spec`, `absPool`).  Every operation is an action on
the pool (`DbOp.act`, `DbOp.sact` of `Lemmas/DbHistOps.lean`), and the step theorems here are the facts about
actions (`Act.Sim.step`, `Act.step_keeps` of `Lemmas/DbHist.lean`) at `Db.spec`, `Db.Inv` and `SDb.Stored`; the
history theorems follow by induction over the operation list.
-/
namespace E3fpVerif.Props.C05Hist
open E3fpVerif

/-- every live database satisfies the representation invariant -/
def PoolInv (p : Pool) : Prop := ∀ e ∈ p, e.2.Inv

/-- a history is well formed when every `from_array` supplies one name per matrix row -/
def _root_.E3fpVerif.DbOp.WF : DbOp → Prop
  | .fromArray _ rows _ names _ _ _ _ => names.length = rows.length
  | _ => True

theorem poolInv_nil : PoolInv [] := fun _ he => absurd he List.not_mem_nil

/-! ## one step: refinement -/

/-- **one step of a history refines the specification**: same answer, same abstract pool (and the
operation is malformed on the model exactly when it is on the specification).  `hw` is not used: a single
step refines without it; `step_inv` is where well-formedness enters. -/
theorem step_refines (p : Pool) (op : DbOp) (hp : PoolInv p) (hw : op.WF) :
    (stepOp p op).map (fun r => (absPool r.1, r.2)) = specStep (absPool p) op := by
  rewrite [stepOp_eq_act, specStep_eq_act]
  exact (act_sim op).step p hp

/-! ## one step: the invariant -/

theorem act_keeps_inv (op : DbOp) (hw : op.WF) : op.act.Keeps Db.Inv := by
  cases op with
  | new id k level name => rintro d ⟨⟩; exact C05.inv_new k level name
  | add id fps => intro d d' hd h; exact toEx_ok h ▸ C05.inv_add_always d fps hd
  | fromArray id rows bits names k level name props =>
    intro d h; exact C05.fromArray_inv' (toEx_eq_ok.1 h) hw
  | subset id out names newName => intro d d' _ h; exact C05.subset_inv d names newName d' h
  | asType id out k => intro d d' hd h; exact C05.asType_inv d k d' hd h
  | fold id out bits k newName => intro d d' hd h; exact C05.fold_inv d bits k newName d' hd h
  | concat ids out =>
    intro ds d' hd h
    cases ds with
    | nil => cases h
    | cons d0 rest => exact C16.concat_inv d0 rest d' hd h
  | setProp id key vals => intro d d' hd h; exact toEx_ok h ▸ C05.setProp_inv d key vals hd
  | updateProps id cols => intro d d' hd h; exact toEx_ok h ▸ C05.updateProps_inv d cols hd
  | pickle id out => rintro d d' hd ⟨⟩; exact (C08.pickle_inv d hd).2
  | savezLoad id out => intro d d' hd h; exact C08.savezLoad_inv d d' hd h

/-- **every live database satisfies the invariant after a step** -/
theorem step_inv (p : Pool) (op : DbOp) (hp : PoolInv p) (hw : op.WF) (r : Pool × Ans)
    (h : stepOp p op = some r) : PoolInv r.1 :=
  op.act.step_keeps (act_keeps_inv op hw) p hp r (stepOp_eq_act p op ▸ h)

/-! ## histories -/

/-- **every history refines the specification**: the run on the operational model and the run on the
list-of-rows specification give the same answers, step by step, and the same abstract pool -/
theorem history_refines (p : Pool) (ops : List DbOp) (hp : PoolInv p) (hw : ∀ op ∈ ops, op.WF) :
    (runOps p ops).map (fun r => (absPool r.1, r.2)) = runSpec (absPool p) ops := by
  induction ops generalizing p with
  | nil => rfl
  | cons op rest ih =>
    have hwo : op.WF := hw op List.mem_cons_self
    rewrite [runOps_cons, runSpec_cons, ← step_refines p op hp hwo]
    cases hst : stepOp p op with
    | none => rfl
    | some r =>
      simp only [Option.map_some, Option.bind_some]
      rewrite [← ih r.1 (step_inv p op hp hwo r hst) (fun o ho => hw o (List.mem_cons_of_mem _ ho))]
      cases runOps r.1 rest <;> rfl

theorem history_inv (p : Pool) (ops : List DbOp) (hp : PoolInv p) (hw : ∀ op ∈ ops, op.WF) (r : Pool × List Ans)
    (h : runOps p ops = some r) : PoolInv r.1 :=
  runOps_keeps PoolInv DbOp.WF (fun p op r hp hw h => step_inv p op hp hw r h) p ops hp hw r h

/-! ## reads -/

set_option linter.unusedVariables false in
/-- `db[i]` (Python indexing, negative indices included) is the `i`-th row of the specification (`h` is
not used: a positional read does not consult the name index) -/
theorem getIndex_refines (db : Db) (h : db.Inv) (i : Int) : db.getIndex i = db.spec.getIndex i := by
  unfold Db.getIndex SDb.getIndex
  rewrite [spec_rows_length]
  refine ite_congr rfl (fun _ => rfl) fun hc => ?_
  have hlt : (if i < 0 then (i + (db.fpNum : Int)).toNat else i.toNat) < db.fpNum := by
    obtain ⟨h1, h2⟩ := not_or.1 hc
    by_cases h0 : i < 0
    · rewrite [if_pos h0, Int.toNat_lt (Int.add_nonneg_iff_neg_le.2 (Int.not_lt.1 h2))]
      exact lt_of_lt_of_eq (Int.add_lt_add_right h0 _) (Int.zero_add _)
    · rewrite [if_neg h0, Int.toNat_lt (Int.not_lt.1 h0)]
      exact Int.not_le.1 h1
  generalize (if i < 0 then (i + (db.fpNum : Int)).toNat else i.toNat) = j at hlt ⊢
  rewrite [show db.spec.rows[j]? = some (mkRow (db.array.getD []) db.fpNames db.props j) by
         simp [Db.spec, absRows_eq, mkRows, hlt]]
  exact fprintAt_spec db j hlt

/-- `db[name]` is the list of the specification's rows carrying the name, in insertion order -/
theorem getName_refines (db : Db) (h : db.Inv) (nm : String) : db.getName nm = db.spec.getName nm := by
  rewrite [C05.getName_rows db nm h]
  unfold SDb.getName
  rewrite [spec_named_eq db nm h]
  symm
  apply mapM_map_congr
  intro i hi
  exact (fprintAt_spec db i (h.names_length ▸ (List.getElem?_eq_some_iff.1 ((mem_positions _ _ _).1 hi)).1)).symm

/-- **a database is a faithful container**: after ANY well-formed history started from the empty pool,
the answers are those of the list-of-rows specification, the abstract pool is the specification's pool,
and every live database satisfies the invariant and answers `db[i]` and `db[name]` as its list of rows
does -/
theorem faithful_container (ops : List DbOp) (hw : ∀ op ∈ ops, op.WF) (p : Pool) (as : List Ans)
    (h : runOps [] ops = some (p, as)) :
    ∃ sp, runSpec [] ops = some (sp, as) ∧ sp = absPool p ∧
      ∀ id db, p.get? id = some db →
        db.Inv ∧ (∀ i, db.getIndex i = db.spec.getIndex i) ∧ (∀ nm, db.getName nm = db.spec.getName nm) := by
  have hr := history_refines [] ops poolInv_nil hw
  have hi := history_inv [] ops poolInv_nil hw (p, as) h
  rewrite [h] at hr
  refine ⟨absPool p, hr.symm, rfl, ?_⟩
  intro id db hg
  have hd : db.Inv := PoolOf.all_get? hi hg
  exact ⟨hd, fun i => getIndex_refines db hd i, fun nm => getName_refines db hd nm⟩

/-! ## stored cells are fixed points of the dtype cast -/

/-- every row's cells are what the kind's dtype stores -/
def _root_.E3fpVerif.SDb.Stored (s : SDb) : Prop := ∀ r ∈ s.rows, castRow s.kind r.cells = r.cells

theorem castRow_idem (k : Kind) (r : Row) : castRow k (castRow k r) = castRow k r := by
  simp only [castRow, List.map_map, Function.comp_def, castVal_idem]

theorem castRow_fpRow (k : Kind) (f : Fp) : castRow k (fpRow k f) = fpRow k f := by
  simp only [castRow, fpRow, List.map_map, Function.comp_def, castVal_idem]

theorem stored_new (k : Kind) (level : Int) (name : Option String) : (SDb.new k level name).Stored := by
  intro r hr; cases hr

theorem stored_added (s : SDb) (fps : List FpIn) (h : s.Stored) : (s.added fps).Stored := by
  intro r hr
  rcases List.mem_append.1 hr with hr | hr
  · exact h r hr
  · obtain ⟨f, _, rfl⟩ := List.mem_map.1 hr
    exact castRow_fpRow s.kind f.fp

theorem stored_fromArray (rows : List Row) (bits : Nat) (names : List (Option String)) (k : Kind) (level : Int)
    (name : Option String) (props : List (String × List PVal)) (s : SDb)
    (h : SDb.fromArray rows bits names k level name props = .ok s) : s.Stored := by
  simp only [SDb.fromArray, ite_error_eq_ok, Except.ok.injEq] at h
  obtain ⟨_, rfl⟩ := h
  intro r hr
  obtain ⟨i, _, rfl⟩ := List.mem_map.1 hr
  exact castRow_idem k _

theorem stored_subset (s : SDb) (names : List String) (newName : Option String) (d : SDb)
    (h : s.subset names newName = .ok d) : d.Stored := by
  simp only [SDb.subset, ite_error_eq_ok, Except.ok.injEq] at h
  obtain ⟨_, _, rfl⟩ := h
  intro r hr
  obtain ⟨nm, _, hr⟩ := List.mem_flatMap.1 hr
  obtain ⟨r0, _, rfl⟩ := List.mem_map.1 hr
  exact castRow_idem s.kind _

theorem stored_asType (s : SDb) (k : Kind) (d : SDb) (h : s.asType k = .ok d) : d.Stored := by
  unfold SDb.asType at h
  split at h
  · cases h
  · cases h
    intro r hr
    obtain ⟨r0, _, rfl⟩ := List.mem_map.1 hr
    exact castRow_idem k _

theorem stored_fold (s : SDb) (bits : Nat) (k : Option Kind) (newName : Option String) (d : SDb)
    (h : s.fold bits k newName = .ok d) : d.Stored := by
  unfold SDb.fold at h
  split at h
  · cases h
  · simp only [ite_error_eq_ok, Except.ok.injEq] at h
    obtain ⟨_, _, rfl⟩ := h
    intro r hr
    obtain ⟨r0, _, rfl⟩ := List.mem_map.1 hr
    exact castRow_idem _ _

theorem stored_concat (ss : List SDb) (d : SDb) (hs : ∀ s ∈ ss, s.Stored) (h : SDb.concat ss = .ok d) :
    d.Stored := by
  cases ss with
  | nil => cases h
  | cons s0 rest =>
    obtain ⟨⟨_, _, hk, _⟩, rfl⟩ := (SDb.concat_eq_ok s0 rest d).1 h
    intro r hr
    obtain ⟨s, hsm, hr⟩ := List.mem_flatMap.1 hr
    obtain ⟨r0, hr0, rfl⟩ := List.mem_map.1 hr
    show castRow s0.kind r0.cells = r0.cells
    rewrite [← hk s hsm]
    exact hs s hsm r0 hr0

theorem stored_setProp (s : SDb) (key : String) (vals : List PVal) (h : s.Stored) : (s.setProp key vals).1.Stored := by
  unfold SDb.setProp
  by_cases hl : vals.length ≠ s.rows.length
  · rewrite [if_pos hl]; exact h
  · rewrite [if_neg hl]
    intro r hr
    obtain ⟨p, hp, rfl⟩ := List.mem_map.1 hr
    exact h p.1 (List.of_mem_zip hp).1

theorem setProp_kind (s : SDb) (key : String) (vals : List PVal) : (s.setProp key vals).1.kind = s.kind := by
  unfold SDb.setProp
  by_cases hl : vals.length ≠ s.rows.length
  · rw [if_pos hl]
  · rw [if_neg hl]

theorem stored_updateProps (s : SDb) (cols : List (String × List PVal)) (h : s.Stored) :
    (s.updateProps cols).1.Stored := by
  have hf : ∀ t : SDb, t.Stored → (cols.foldl (fun acc c => (acc.setProp c.1 c.2).1) t).Stored := by
    induction cols with
    | nil => exact fun t h => h
    | cons c rest ih => exact fun t h => ih _ (stored_setProp t c.1 c.2 h)
  unfold SDb.updateProps
  split
  · exact h
  · exact hf s h

theorem recast_stored (s : SDb) (h : s.Stored) (l : List SRow) (hl : ∀ r ∈ l, r ∈ s.rows) :
    l.map (fun r => { r with cells := castRow s.kind r.cells }) = l := by
  have : ∀ r ∈ l, (fun r : SRow => { r with cells := castRow s.kind r.cells }) r = id r := by
    intro r hr
    simp only [id, h r (hl r hr)]
  rw [List.map_congr_left this, List.map_id]

/-- **for a `Stored` database `get_subset` returns the source rows themselves** (no re-cast) -/
theorem subset_of_stored (s : SDb) (h : s.Stored) (names : List String) (newName : Option String) :
    s.subset names newName =
      if names.any (fun nm => (s.named nm).isEmpty) then .error .value
      else if names.isEmpty then .error .value
      else .ok { s with name := newName, bits := some (s.bits.getD 0), rows := names.flatMap (fun nm => s.named nm) } := by
  unfold SDb.subset
  have : (fun nm => (s.named nm).map (fun r => { r with cells := castRow s.kind r.cells })) = fun nm => s.named nm := by
    funext nm
    exact recast_stored s h _ (fun r hr => (List.mem_filter.1 hr).1)
  rw [this]

/-- **for a `Stored` database the npz round trip is the identity** -/
theorem savezLoad_of_stored (s : SDb) (h : s.Stored) (b : Nat) (hb : s.bits = some b) : s.savezLoad = .ok s := by
  have hr := recast_stored s h s.rows (fun r hr => hr)
  unfold SDb.savezLoad
  split
  · rename_i hn; rewrite [hn] at hb; cases hb
  · rw [hr]

theorem sact_keeps_stored (op : DbOp) : op.sact.Keeps SDb.Stored := by
  cases op with
  | new id k level name => rintro d ⟨⟩; exact stored_new k level name
  | add id fps =>
    intro d d' hd h
    obtain ⟨_, rfl⟩ := (d.add_eq_ok d' fps).1 (toEx_eq_ok.1 h)
    exact stored_added d fps hd
  | fromArray id rows bits names k level name props => exact stored_fromArray rows bits names k level name props
  | subset id out names newName => intro d d' _ h; exact stored_subset d names newName d' h
  | asType id out k => intro d d' _ h; exact stored_asType d k d' h
  | fold id out bits k newName => intro d d' _ h; exact stored_fold d bits k newName d' h
  | concat ids out => intro ds d' hd h; exact stored_concat ds d' hd h
  | setProp id key vals => intro d d' hd h; exact toEx_ok h ▸ stored_setProp d key vals hd
  | updateProps id cols => intro d d' hd h; exact toEx_ok h ▸ stored_updateProps d cols hd
  | pickle id out => rintro d d' hd ⟨⟩; exact hd
  | savezLoad id out => intro d d' _ h; exact stored_asType d d.kind d' h

theorem specStep_stored (p : SPool) (op : DbOp) (hp : ∀ e ∈ p, e.2.Stored) (r : SPool × Ans)
    (h : specStep p op = some r) : ∀ e ∈ r.1, e.2.Stored :=
  op.sact.step_keeps (sact_keeps_stored op) p hp r (specStep_eq_act p op ▸ h)

/-- after any well-formed history from the empty pool, every live database holds `Stored` rows (so
`subset_of_stored` and `savezLoad_of_stored` apply to it) -/
theorem stored_after_history (ops : List DbOp) (hw : ∀ op ∈ ops, op.WF) (p : Pool) (as : List Ans)
    (h : runOps [] ops = some (p, as)) : ∀ id db, p.get? id = some db → db.spec.Stored := by
  have key := runOps_keeps (fun p => PoolInv p ∧ ∀ e ∈ absPool p, e.2.Stored) DbOp.WF ?_ [] ops
    ⟨poolInv_nil, fun _ he => absurd he List.not_mem_nil⟩ hw (p, as) h
  · intro id db hg
    exact PoolOf.all_get? key.2 (show (absPool p).get? id = some db.spec by rewrite [absPool, PoolOf.get?_map, hg]; rfl)
  · intro p op r ⟨hp, hs⟩ hw hst
    refine ⟨step_inv p op hp hw r hst, ?_⟩
    have := step_refines p op hp hw
    rewrite [hst] at this
    exact specStep_stored (absPool p) op hs (absPool r.1, r.2) this.symm

/-! ## non-vacuity -/

section Examples

private def g1 : Fp := ⟨.count, 8, 5, [1, 5], [(1, 2), (5, 1)]⟩
private def g2 : Fp := ⟨.count, 8, 5, [3], [(3, 4)]⟩

/-- a history using every kind of operation: a new count database, two fingerprints with a property,
a second column, a subset, a cast to bits, a fold from 8 to 4 columns (columns 1 and 5 collide), a
concatenation, a pickle round trip and an npz round trip -/
def exOps : List DbOp :=
  [ .new "a" .count 5 (some "db"),
    .add "a" [⟨g1, some "x", [("w", .int 1)]⟩, ⟨g2, some "y", [("w", .int 2)]⟩],
    .setProp "a" "v" [.str "p", .str "q"],
    .subset "a" "s" ["y"] none,
    .asType "a" "t" .bit,
    .fold "a" "f" 4 none (some "folded"),
    .concat ["a", "s"] "c",
    .pickle "c" "pk",
    .savezLoad "pk" "z" ]

theorem exOps_wf : ∀ op ∈ exOps, op.WF := by
  intro op h
  simp only [exOps, List.mem_cons, List.not_mem_nil, or_false] at h
  rcases h with rfl | rfl | rfl | rfl | rfl | rfl | rfl | rfl | rfl <;> trivial

/-- the history runs on the operational model, every operation is accepted, and the final abstract
pool holds these rows for the bit copy `"t"`, the folded database `"f"` and the reloaded concatenation `"z"` -/
theorem exOps_runs :
    (runOps [] exOps).map (·.2) = some [none, none, none, none, none, none, none, none, none] ∧
    ((runOps [] exOps).bind (fun r => (absPool r.1).get? "t")).map (·.rows) =
      some [⟨[(1, 1), (5, 1)], some "x", [("w", .int 1), ("v", .str "p")]⟩,
            ⟨[(3, 1)], some "y", [("w", .int 2), ("v", .str "q")]⟩] ∧
    ((runOps [] exOps).bind (fun r => (absPool r.1).get? "f")).map (·.rows) =
      some [⟨[(1, 3)], some "x", [("w", .int 1), ("v", .str "p")]⟩,
            ⟨[(3, 4)], some "y", [("w", .int 2), ("v", .str "q")]⟩] ∧
    (runOps [] exOps).bind (fun r => (absPool r.1).get? "z") =
      some { kind := .count, level := 5, name := none, bits := some 8, keys := ["w", "v"],
             rows := [⟨[(1, 2), (5, 1)], some "x", [("w", .int 1), ("v", .str "p")]⟩,
                      ⟨[(3, 4)], some "y", [("w", .int 2), ("v", .str "q")]⟩,
                      ⟨[(3, 4)], some "y", [("w", .int 2), ("v", .str "q")]⟩] } := by
  decide +kernel

/-- the hypotheses of `history_refines` / `faithful_container` hold of it, and the conclusion can be
checked by evaluation as well -/
theorem exOps_refines : (runOps [] exOps).isSome = true ∧
    (runOps [] exOps).map (fun r => (absPool r.1, r.2)) = runSpec [] exOps :=
  ⟨by rewrite [← Option.isSome_map (f := (·.2)), exOps_runs.1]; rfl, history_refines [] exOps poolInv_nil exOps_wf⟩

example : (runOps [] exOps).map (fun r => (absPool r.1, r.2)) = runSpec [] exOps := by decide +kernel

/-- what `runOps` does with an operation that cannot be carried out: a `concat` naming a database that does not exist
(`"b"`) makes the history malformed (`none`); an `add` whose batch lacks column `"w"` is refused with `key`, a `subset`
by an unknown name with `value`, and the history goes on -/
example :
    (runOps [] [.new "a" .bit 0 none, .add "a" [⟨⟨.bit, 8, 0, [1], []⟩, some "x", [("w", .int 1)]⟩],
        .add "a" [⟨⟨.bit, 8, 0, [2], []⟩, some "y", []⟩], .concat ["a", "b"] "c"]).map (·.2) = none ∧
    (runOps [] [.new "a" .bit 0 none, .add "a" [⟨⟨.bit, 8, 0, [1], []⟩, some "x", [("w", .int 1)]⟩],
        .add "a" [⟨⟨.bit, 8, 0, [2], []⟩, some "y", []⟩], .subset "a" "s" ["nobody"] none]).map (·.2) =
      some [none, none, some .key, some .value] := by
  decide +kernel

/-- the well-formedness hypothesis cannot be dropped: `from_array` with fewer names than rows builds a
database violating the invariant, and the next `set_prop` (which checks the column against the *name*
list in the code, against the rows in the specification) is answered differently -/
theorem wf_needed :
    (runOps [] [.fromArray "a" [[], []] 8 [some "x"] .bit 0 none [], .setProp "a" "k" [.int 1]]).map
        (fun r => (absPool r.1, r.2)) ≠
      runSpec [] [.fromArray "a" [[], []] 8 [some "x"] .bit 0 none [], .setProp "a" "k" [.int 1]] := by
  decide +kernel

end Examples

end E3fpVerif.Props.C05Hist
