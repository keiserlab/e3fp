import E3fpVerif.Model.ConfigState
/-!
# C20 — options absent from a user file fall back to the *packaged* defaults, whatever the process did before

`read_fallback` / `read_user_wins` / `read_nofill`: the table read from a user file with `fill_defaults`;
`read_history_free`: the answer of a read does not depend on the history of the process - in particular not on variants
derived earlier from the live `default_params` object (which do change what `get_default_value` reports: `derive_changes_live`).
-/
namespace E3fpVerif.Props.C20State
open E3fpVerif

theorem ctGet_ctSet (t : CTable) (k q : CKey) (v : CVal) :
    ctGet (ctSet t k v) q = if k = q then some v else ctGet t q := by
  induction t with
  | nil => rfl
  | cons e es ih =>
    obtain ⟨k', v'⟩ := e
    by_cases he : k' = k
    · subst he
      by_cases hq : k' = q <;> simp [ctSet, ctGet, hq]
    · by_cases hq : k' = q
      · subst hq
        have hk : ¬ k = k' := fun h => he h.symm
        simp [ctSet, ctGet, he, hk]
      · simp [ctSet, ctGet, he, hq, ih]

theorem readCfgTable_absent (defaults user : CTable) (k : CKey) (h : ∀ e ∈ user, e.1 ≠ k) :
    ctGet (readCfgTable defaults user) k = ctGet defaults k := by
  induction user generalizing defaults with
  | nil => rfl
  | cons e es ih =>
    exact (ih _ fun e' he' => h e' (List.mem_cons_of_mem _ he')).trans
      (by rw [ctGet_ctSet, if_neg (h e List.mem_cons_self)])

/-- the last entry of an option in the user file is the one read, as typed on the way through the file -/
theorem readCfgTable_present (defaults : CTable) (pre post : CTable) (k : CKey) (v : CVal)
    (hpost : ∀ e ∈ post, e.1 ≠ k) :
    ctGet (readCfgTable defaults (pre ++ (k, v) :: post)) k = some (viaFile v) := by
  unfold readCfgTable
  rewrite [List.foldl_append, List.foldl_cons]
  exact (readCfgTable_absent _ post k hpost).trans (by rw [ctGet_ctSet, if_pos rfl])

/-- **fallback**: with `fill_defaults` an option absent from the user file has the packaged value -/
theorem read_fallback (s : CfgState) (user : CTable) (k : CKey) (h : ∀ e ∈ user, e.1 ≠ k) :
    ∃ t, (cfgStep s (.read user true)).2 = .table t ∧ ctGet t k = ctGet s.packaged k :=
  ⟨_, rfl, readCfgTable_absent s.packaged user k h⟩

/-- the user's own options win -/
theorem read_user_wins (s : CfgState) (fill : Bool) (pre post : CTable) (k : CKey) (v : CVal) (hpost : ∀ e ∈ post, e.1 ≠ k) :
    ∃ t, (cfgStep s (.read (pre ++ (k, v) :: post) fill)).2 = .table t ∧ ctGet t k = some (viaFile v) :=
  ⟨_, rfl, readCfgTable_present _ pre post k v hpost⟩

/-- without `fill_defaults` nothing but the user's options is there -/
theorem read_nofill (s : CfgState) (user : CTable) (k : CKey) (h : ∀ e ∈ user, e.1 ≠ k) :
    ∃ t, (cfgStep s (.read user false)).2 = .table t ∧ ctGet t k = none :=
  ⟨_, rfl, readCfgTable_absent [] user k h⟩

/-- no operation writes the packaged defaults -/
theorem step_packaged (s : CfgState) (op : CfgOp) : (cfgStep s op).1.packaged = s.packaged := by
  cases op <;> rfl

theorem run_packaged (s : CfgState) (ops : List CfgOp) : (cfgRun s ops).1.packaged = s.packaged := by
  induction ops generalizing s with
  | nil => rfl
  | cons op ops ih => exact (ih _).trans (step_packaged s op)

/-- **a read is a function of the packaged defaults and the user file only**: after any history of the process (variants
derived from the live defaults object, other reads) it answers as in the initial state -/
theorem read_history_free (s : CfgState) (ops : List CfgOp) (user : CTable) (fill : Bool) :
    (cfgStep (cfgRun s ops).1 (.read user fill)).2 = (cfgStep s (.read user fill)).2 := by
  simp only [cfgStep, run_packaged]

/-- ... although deriving a variant from the live object does change what `get_default_value` reports (the shallow copy shares
the section dictionaries): kept as a statement about the unchanged code, not as a property -/
theorem derive_changes_live (s : CfgState) (sec opt : String) (v : CVal) :
    (cfgStep (cfgStep s (.derive sec [(opt, v)])).1 (.getDefault (sec, opt))).2 = .val (some (viaFile v)) :=
  congrArg CfgAns.val ((ctGet_ctSet _ _ _ _).trans (if_pos rfl))

/-- non-vacuity: level 5 packaged; a variant with level 2 is derived from the live object; a user file without `level` read
with fill_defaults still gets 5, `get_default_value` now says 2 -/
example :
    let s : CfgState := ⟨[(("fingerprinting", "level"), .int 5)], [(("fingerprinting", "level"), .int 5)]⟩
    (cfgRun s [.derive "fingerprinting" [("level", .int 2)], .read [(("fingerprinting", "bits"), .int 1024)] true,
               .getDefault ("fingerprinting", "level")]).2.map (fun a => match a with
      | .table t => ctGet t ("fingerprinting", "level") | .val v => v | .unit => none) = [none, some (.int 5), some (.int 2)] := by
  decide +kernel

end E3fpVerif.Props.C20State
