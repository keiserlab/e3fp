import E3fpVerif.Props.C05Hist
/-!
# C16 (histories) — a refused operation changes nothing, anywhere in a history

`Props/C16.lean` shows that `add_fingerprints`, `set_prop`, `update_props` validate before the first mutation.
Here that is lifted to the whole operation language of `Model/DbHist.lean`: a step that answers an error leaves
the *pool* as it was (every live database, not only the operand; by construction of `putRes`, so no invariant is
needed), hence the refused operations of a history can be struck out; and when the specification refuses.
-/
namespace E3fpVerif.Props.C16Hist
open E3fpVerif

/-! ## one step -/

/-- **a refused operation leaves the whole pool unchanged** (operational model; no invariant needed) -/
theorem refusal_atomic (p : Pool) (op : DbOp) (p' : Pool) (e : Err) (h : stepOp p op = some (p', some e)) :
    p' = p :=
  op.act.step_refused p p' e (stepOp_eq_act p op ▸ h)

/-- **a refused operation leaves the whole pool unchanged** (specification) -/
theorem spec_refusal_atomic (p : SPool) (op : DbOp) (p' : SPool) (e : Err)
    (h : specStep p op = some (p', some e)) : p' = p :=
  op.sact.step_refused p p' e (specStep_eq_act p op ▸ h)

/-! ## histories -/

/-- the operations of a history that were accepted (answer `none`), given the answers -/
def accepted : List DbOp → List Ans → List DbOp
  | op :: ops, a :: as => if a.isNone then op :: accepted ops as else accepted ops as
  | _, _ => []

/-- **the refused operations of a history can be struck out**: running only the accepted operations
reaches the same final pool, and each of them is accepted again -/
theorem history_refusals_skip (p : Pool) (ops : List DbOp) (q : Pool) (as : List Ans)
    (h : runOps p ops = some (q, as)) :
    runOps p (accepted ops as) = some (q, as.filter (·.isNone)) := by
  induction ops generalizing p as with
  | nil => cases h; rfl
  | cons op rest ih =>
    obtain ⟨p', a, as', hst, hr, rfl⟩ := runOps_cons_some h
    cases a with
    | none =>
      show runOps p (op :: accepted rest as') = some (q, none :: as'.filter (·.isNone))
      rewrite [runOps_cons, hst, Option.bind_some, ih p' as' hr]
      rfl
    | some e =>
      obtain rfl := refusal_atomic p op p' e hst
      exact ih p' as' hr

/-- every answer of the struck-out history is an acceptance, and there are as many as accepted operations -/
theorem accepted_answers (ops : List DbOp) (as : List Ans) (hl : as.length = ops.length) :
    (as.filter (·.isNone)).length = (accepted ops as).length ∧ ∀ a ∈ as.filter (·.isNone), a = none := by
  refine ⟨?_, fun a ha => Option.isNone_iff_eq_none.1 (List.mem_filter.1 ha).2⟩
  induction ops generalizing as with
  | nil => rewrite [List.length_eq_zero_iff.1 hl]; rfl
  | cons op rest ih =>
    cases as with
    | nil => cases hl
    | cons a as' =>
      have := ih as' (Nat.succ.inj hl)
      cases a with
      | none => exact congrArg Nat.succ this
      | some e => exact this

theorem runOps_length (p : Pool) (ops : List DbOp) (q : Pool) (as : List Ans) (h : runOps p ops = some (q, as)) :
    as.length = ops.length := by
  induction ops generalizing p as with
  | nil => cases h; rfl
  | cons op rest ih =>
    obtain ⟨p', a, as', _, hr, rfl⟩ := runOps_cons_some h
    rw [List.length_cons, List.length_cons, ih p' as' hr]

/-- **a refused operation can be deleted from any position of a history**: the final pool and all
other answers stay -/
theorem refused_op_deletable (p : Pool) (xs ys : List DbOp) (op : DbOp) (q : Pool) (as : List Ans) (e : Err)
    (h : runOps p (xs ++ op :: ys) = some (q, as)) (ha : as[xs.length]? = some (some e)) :
    runOps p (xs ++ ys) = some (q, as.eraseIdx xs.length) := by
  induction xs generalizing p as with
  | nil =>
    obtain ⟨p', a, as', hst, hr, rfl⟩ := runOps_cons_some h
    simp only [List.length_nil, List.getElem?_cons_zero, Option.some.injEq] at ha
    subst ha
    obtain rfl := refusal_atomic p op p' e hst
    exact hr
  | cons x xs ih =>
    obtain ⟨p', a, as', hst, hr, rfl⟩ := runOps_cons_some h
    simp only [List.length_cons, List.getElem?_cons_succ] at ha
    have := ih p' as' hr ha
    simp only [List.cons_append, List.length_cons, List.eraseIdx_cons_succ]
    rewrite [runOps_cons, hst, Option.bind_some, this]
    rfl

/-! ## when the specification refuses -/

theorem add_refused_iff (s : SDb) (fps : List FpIn) :
    (s.add fps).2.isSome ↔
      fps = [] ∨ (∃ f ∈ fps, f.fp.level ≠ s.level) ∨ (∃ f ∈ fps, f.fp.bits ≠ s.expectedBits fps) ∨
        (∃ f ∈ fps, ∃ k ∈ s.expectedKeys fps, propLookup f.props k = none) := by
  simp only [SDb.add, ite_refuse_isSome]
  simp only [List.isEmpty_iff, List.any_eq_true, bne_iff_ne, ne_eq, Option.isNone_iff_eq_none, Option.isSome_none,
    Bool.false_eq_true, or_false]

theorem setProp_refused_iff (s : SDb) (key : String) (vals : List PVal) :
    (s.setProp key vals).2.isSome ↔ vals.length ≠ s.rows.length := by
  simp only [SDb.setProp, ite_refuse_isSome, Option.isSome_none, Bool.false_eq_true, or_false]

theorem updateProps_refused_iff (s : SDb) (cols : List (String × List PVal)) :
    (s.updateProps cols).2.isSome ↔ ∃ c ∈ cols, c.2.length ≠ s.rows.length := by
  simp only [SDb.updateProps, ite_refuse_isSome, List.any_eq_true, decide_eq_true_eq, Option.isSome_none,
    Bool.false_eq_true, or_false]

/-- `concat` of a non-empty list is refused exactly when an operand differs in level, length or kind,
an operand has no rows yet (`bits = none`), or an operand that has rows lacks a column another has -/
theorem concat_refused_iff (s0 : SDb) (rest : List SDb) :
    (∃ e, SDb.concat (s0 :: rest) = .error e) ↔
      (∃ d ∈ s0 :: rest, d.level ≠ s0.level) ∨ (∃ d ∈ s0 :: rest, d.bits ≠ s0.bits) ∨
      (∃ d ∈ s0 :: rest, d.kind ≠ s0.kind) ∨ (∃ d ∈ s0 :: rest, d.bits = none) ∨
      (∃ d ∈ s0 :: rest, d.rows ≠ [] ∧ ∃ k ∈ concatKeysS (s0 :: rest), k ∉ d.keys) := by
  have hok := fun d => SDb.concat_eq_ok s0 rest d
  rewrite [exists_error_iff, show (∀ d, SDb.concat (s0 :: rest) ≠ .ok d) ↔ ¬ _ from
         ⟨fun h g => h _ ((hok _).2 ⟨g, rfl⟩), fun h d hd => h ((hok d).1 hd).1⟩]
  simp only [Classical.not_and_iff_not_or_not, Classical.not_forall, Classical.not_not, ne_eq, exists_prop]

/-! ## non-vacuity -/

section Examples

private def f0 : Fp := ⟨.bit, 8, 0, [1, 2], []⟩
private def f1 : Fp := ⟨.bit, 8, 0, [3], []⟩
private def fBad : Fp := ⟨.bit, 8, 1, [4], []⟩

private def o0 : DbOp := .new "a" .bit 0 none
private def o1 : DbOp := .add "a" [⟨f0, some "x", []⟩]
/-- refused: the second fingerprint has level 1, the database level 0 -/
private def o2 : DbOp := .add "a" [⟨f1, some "y", []⟩, ⟨fBad, some "z", []⟩]
private def o3 : DbOp := .add "a" [⟨f1, some "y", []⟩]
private def o4 : DbOp := .subset "a" "s" ["y"] none

/-- a history with a refused `add` (a fingerprint of level 1 for a level-0 database) in the middle -/
def exOps : List DbOp := [o0, o1, o2, o3, o4]

theorem exOps_accepted : accepted exOps [none, none, some .value, none, none] = [o0, o1, o3, o4] := rfl

/-- the third operation is refused with a `ValueError`, the others are accepted; striking it out gives
the history of the four accepted operations, which reaches the same pool (two rows `x`, `y` in `"a"`,
not three or four) -/
theorem exOps_refused :
    (runOps [] exOps).map (·.2) = some [none, none, some .value, none, none] ∧
    (runOps [] [o0, o1, o3, o4]).map (·.2) = some [none, none, none, none] ∧
    (runOps [] [o0, o1, o3, o4]).map (fun r => absPool r.1) = (runOps [] exOps).map (fun r => absPool r.1) ∧
    ((runOps [] exOps).bind (fun r => (absPool r.1).get? "a")).map (fun s => s.rows.map (·.name)) =
      some [some "x", some "y"] := by
  decide +kernel

/-- `history_refusals_skip` and `refused_op_deletable` apply to it -/
example : ∃ q, runOps [] exOps = some (q, [none, none, some .value, none, none]) ∧
    runOps [] [o0, o1, o3, o4] = some (q, [none, none, none, none]) ∧
    runOps [] ([o0, o1] ++ [o3, o4]) = some (q, [none, none, none, none]) := by
  obtain ⟨⟨q, as⟩, hr, rfl⟩ := Option.map_eq_some_iff.1 exOps_refused.1
  refine ⟨q, hr, ?_, ?_⟩
  · have := history_refusals_skip [] exOps q _ hr
    rwa [exOps_accepted] at this
  · exact refused_op_deletable [] [o0, o1] [o3, o4] o2 q _ .value hr rfl

end Examples

end E3fpVerif.Props.C16Hist
