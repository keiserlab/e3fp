import E3fpVerif.Model.Fprinter
import E3fpVerif.Lemmas.Fprinter
import E3fpVerif.Lemmas.Subsets
import E3fpVerif.Lemmas.StateIn
import E3fpVerif.Lemmas.FprinterEx
import E3fpVerif.Lemmas.FoldLemmas
/-!
# C12 — the levels of a run

Levels nest (each accepted level is a prefix of the next); the level limit only cuts the run off
(`truncation_eq`: the run to limit `k` has the first `k + 1` levels of any longer run); with duplicate
removal the run stops by itself after at most `2^|atoms|` steps, which is what `level = -1` returns.
-/
namespace E3fpVerif.Props.C12
open E3fpVerif

/-- the label of a returned fingerprint is the requested level -/
theorem label (o : Opts) (s : FState) (k : Int) (bits : Option Nat) (mask : List Nat) (f : Fp)
    (h : fingerprintAt o s (some k) bits mask = .ok f) : f.level = k := by
  obtain ⟨f₀, h₀, hf⟩ := (fingerprintAt_eq_ok o s (some k) bits mask f).1 h
  exact (fold_level f₀ f _ 0 .sum hf).trans (fromIndices_fields _ _ _ _ _ f₀ h₀).2.2.1

theorem unionShells_prefix (old new : List GShell) : old <+: unionShells old new :=
  _root_.E3fpVerif.unionShells_prefix old new

theorem unionShells_mem_old (old new : List GShell) : ∀ s ∈ old, s ∈ unionShells old new :=
  _root_.E3fpVerif.unionShells_mem_of_mem_old old new

theorem unionShells_length_ge (old new : List GShell) : old.length ≤ (unionShells old new).length :=
  _root_.E3fpVerif.unionShells_length_ge old new

theorem step_levelShells (o : Opts) (m : MolG) (g : Geo) (atoms : List Nat) (s s' : FState)
    (h : stepState o m g atoms s = some s') :
    (∃ ls, s'.levelShells = s.levelShells ++ [ls] ∧ s.levelShells.getLastD [] <+: ls ∧
      ls.length > (s.levelShells.getLastD []).length) ∧
    s'.gen.length = s.gen.length + 1 := by
  obtain ⟨hs, rfl⟩ := stepState_some o m g atoms s s' h
  exact ⟨⟨_, rfl, unionShells_prefix _ _, Nat.lt_of_le_of_ne
    (unionShells_length_ge _ _) (stepNext_grows o m g atoms s hs).symm⟩, List.length_append⟩

/-- `current_level` goes up by one (the generator list is never empty along a run) -/
theorem step_currentLevel (o : Opts) (m : MolG) (g : Geo) (atoms : List Nat) (s s' : FState)
    (hg : s.gen ≠ []) (h : stepState o m g atoms s = some s') : s'.currentLevel = s.currentLevel + 1 := by
  rw [FState.currentLevel, FState.currentLevel, (step_levelShells o m g atoms s s' h).2, Nat.add_sub_cancel,
    Nat.sub_one_add_one (mt List.length_eq_zero_iff.1 hg)]

/-- along a run every level's list is a prefix of every later level's: a step appends a level that
extends the last one, hence (`prefix_getLastD`) all of them -/
theorem nested_iterate (o : Opts) (m : MolG) (g : Geo) (atoms : List Nat) (n : Nat) :
    (iterate o m g atoms n (initState o m atoms)).levelShells.Pairwise (· <+: ·) := by
  refine iterate_induction o m g atoms (fun s => s.levelShells.Pairwise (· <+: ·)) ?_ n _
    (List.pairwise_singleton _ _)
  intro s s' hs h
  obtain ⟨⟨ls, hls, hpre, _⟩, _⟩ := step_levelShells o m g atoms s s' h
  rewrite [hls, List.pairwise_append]
  exact ⟨hs, List.pairwise_singleton _ _,
    fun a ha b hb => List.mem_singleton.1 hb ▸ (prefix_getLastD _ hs a ha).trans hpre⟩

/-- **levels nest**: in the state a run returns, level `j` is a prefix of every level `k ≥ j` -/
theorem nested_le (o : Opts) (m : MolG) (g : Geo) (atoms : List Nat) (n : Nat) (j k : Nat) (hjk : j ≤ k) :
    let s := iterate o m g atoms n (initState o m atoms)
    k < s.levelShells.length → s.levelShells.getD j [] <+: s.levelShells.getD k [] := by
  intro s hk
  rewrite [List.getD_eq_getElem?_getD, List.getD_eq_getElem?_getD, List.getElem?_eq_getElem hk,
         List.getElem?_eq_getElem (Nat.lt_of_le_of_lt hjk hk)]
  rcases Nat.lt_or_eq_of_le hjk with h | rfl
  · exact List.pairwise_iff_getElem.1 (nested_iterate o m g atoms n) j k _ hk h
  · exact List.prefix_refl _

/-- … so every shell of level `k` is a shell of level `k+1` -/
theorem nested (o : Opts) (m : MolG) (g : Geo) (atoms : List Nat) (n : Nat) (k : Nat) :
    let s := iterate o m g atoms n (initState o m atoms)
    k + 1 < s.levelShells.length →
      ∀ x ∈ s.levelShells.getD k [], x ∈ s.levelShells.getD (k + 1) [] :=
  fun hk _ hx => (nested_le o m g atoms n k (k + 1) (Nat.le_succ k) hk).subset hx

/-- … and every identifier present at level `k` is present at level `k+1` -/
theorem nested_idents (o : Opts) (m : MolG) (g : Geo) (atoms : List Nat) (n : Nat) (k : Nat) :
    let s := iterate o m g atoms n (initState o m atoms)
    k + 1 < s.levelShells.length →
      ∀ i ∈ (s.levelShells.getD k []).map (·.ident), i ∈ (s.levelShells.getD (k + 1) []).map (·.ident) := by
  intro s hk i hi
  exact List.map_subset _ (nested_le o m g atoms n k (k + 1) (Nat.le_succ k) hk).subset hi

theorem nested_run (o : Opts) (m : MolG) (g : Geo) (s : FState) (h : runFp o m g = .ok s) (k : Nat)
    (hk : k + 1 < s.levelShells.length) :
    ∀ x ∈ s.levelShells.getD k [], x ∈ s.levelShells.getD (k + 1) [] := by
  obtain ⟨_, _, _, rfl⟩ := (runFp_ok_iff o m g s).1 h
  exact nested o m g (retained o m) _ k hk

theorem stepAccepted_level (o : Opts) (L' : Int) (m : MolG) (g : Geo) (atoms : List Nat) (s : FState) :
    stepAccepted { o with level := L' } m g atoms s = stepAccepted o m g atoms s := rfl

theorem genLevel_level (o : Opts) (L' : Int) (m : MolG) (g : Geo) (atoms : List Nat) (prev : List GShell)
    (k : Nat) (t : Intern) :
    genLevel { o with level := L' } m g atoms prev k t = genLevel o m g atoms prev k t := rfl

theorem initState_level (o : Opts) (L' : Int) (m : MolG) (atoms : List Nat) :
    initState { o with level := L' } m atoms = initState o m atoms := rfl

theorem step_level_irrelevant (o : Opts) (L' : Int) (m : MolG) (g : Geo) (atoms : List Nat) (s : FState)
    (h1 : ¬ (o.level ≠ -1 ∧ (s.currentLevel : Int) ≥ o.level))
    (h2 : ¬ (L' ≠ -1 ∧ (s.currentLevel : Int) ≥ L')) :
    stepState o m g atoms s = stepState { o with level := L' } m g atoms s := by
  rewrite [stepState_eq, stepState_eq]
  have e : stops { o with level := L' } m g atoms s = stops o m g atoms s :=
    Bool.eq_iff_iff.2 (by rewrite [stops_iff, stops_iff]; exact or_congr (iff_of_false h2 h1) Iff.rfl)
  rewrite [e]
  rfl

/-- at or above the limit the step stops -/
theorem step_at_limit (o : Opts) (m : MolG) (g : Geo) (atoms : List Nat) (s : FState)
    (h : o.level ≠ -1 ∧ (s.currentLevel : Int) ≥ o.level) : stepState o m g atoms s = none :=
  (stepState_none_iff o m g atoms s).2 ((stops_iff o m g atoms s).2 (Or.inl h))

/-- with fuel `n` from a state at level `c`, `c + n ≤ L`, the limit `L` is never the reason to stop:
the run equals the run with the limit switched off -/
theorem iterate_limit_irrelevant (o : Opts) (L : Nat) (m : MolG) (g : Geo) (atoms : List Nat) (n : Nat)
    (s : FState) (h : s.currentLevel + n ≤ L) :
    iterate { o with level := (L : Int) } m g atoms n s = iterate { o with level := -1 } m g atoms n s := by
  induction n generalizing s with
  | zero => rfl
  | succ n ih =>
    have hstep : stepState { o with level := (L : Int) } m g atoms s
        = stepState { o with level := -1 } m g atoms s :=
      step_level_irrelevant { o with level := (L : Int) } (-1) m g atoms s
        (fun hc => Nat.not_le.2 (Nat.lt_of_lt_of_le (Nat.lt_add_of_pos_right n.succ_pos) h) (Int.ofNat_le.1 hc.2))
        (fun hc => hc.1 rfl)
    rewrite [iterate, iterate, hstep]
    cases hs : stepState { o with level := -1 } m g atoms s with
    | none => rfl
    | some s' =>
      refine ih s' ?_
      rewrite [FState.currentLevel, (step_levelShells _ m g atoms s s' hs).2, Nat.add_sub_cancel]
      -- `length ≤ length - 1 + 1`, empty or not
      exact Nat.le_trans (Nat.add_le_add_right (Nat.sub_le_iff_le_add.1 (Nat.le_refl _)) n)
        (Nat.le_trans (Nat.le_of_eq (Nat.add_right_comm _ 1 n)) h)

/-- a run only ever appends levels -/
theorem iterate_levelShells_prefix (o : Opts) (m : MolG) (g : Geo) (atoms : List Nat) (n : Nat) (s : FState) :
    s.levelShells <+: (iterate o m g atoms n s).levelShells := by
  refine iterate_induction o m g atoms (fun t => s.levelShells <+: t.levelShells) ?_ n s (List.prefix_refl _)
  intro t t' ht hs
  obtain ⟨⟨ls, hls, _, _⟩, _⟩ := step_levelShells o m g atoms t t' hs
  rewrite [hls]; exact ht.trans (List.prefix_append _ _)

theorem iterate_levelShells_mono (o : Opts) (m : MolG) (g : Geo) (atoms : List Nat) (a b : Nat) (s : FState)
    (hab : a ≤ b) : (iterate o m g atoms a s).levelShells <+: (iterate o m g atoms b s).levelShells := by
  obtain ⟨d, rfl⟩ := Nat.exists_eq_add_of_le hab
  rewrite [iterate_add]
  exact iterate_levelShells_prefix o m g atoms d _

theorem iterate_length (o : Opts) (m : MolG) (g : Geo) (atoms : List Nat) (n : Nat) (s : FState) :
    (iterate o m g atoms n s).levelShells.length ≤ s.levelShells.length + n ∧
    ((iterate o m g atoms n s).levelShells.length < s.levelShells.length + n →
      stepState o m g atoms (iterate o m g atoms n s) = none) := by
  induction n generalizing s with
  | zero => exact ⟨Nat.le_refl _, fun h => absurd h (Nat.lt_irrefl _)⟩
  | succ n ih =>
    cases hs : stepState o m g atoms s with
    | none => rewrite [iterate_of_none _ _ _ _ _ _ hs]; exact ⟨Nat.le_add_right _ _, fun _ => hs⟩
    | some s' =>
      rewrite [iterate_succ_some _ _ _ _ _ _ _ hs]
      obtain ⟨⟨ls, hls, _, _⟩, _⟩ := step_levelShells o m g atoms s s' hs
      have := ih s'
      rewrite [hls, List.length_append, List.length_singleton, Nat.add_right_comm] at this
      exact this

/-- after fuel `n` either all `n` steps succeeded or the run has stopped for good -/
theorem iterate_full_or_stopped (o : Opts) (m : MolG) (g : Geo) (atoms : List Nat) (n : Nat) (s : FState) :
    (iterate o m g atoms n s).levelShells.length = s.levelShells.length + n ∨
    stepState o m g atoms (iterate o m g atoms n s) = none :=
  (Nat.lt_or_eq_of_le (iterate_length o m g atoms n s).1).elim
    (fun h => Or.inr ((iterate_length o m g atoms n s).2 h)) Or.inl

/-- the run `runFp` performs for a limit `L ≥ 0` -/
def runTo (o : Opts) (m : MolG) (g : Geo) (atoms : List Nat) (L : Nat) : FState :=
  iterate { o with level := (L : Int) } m g atoms L (initState o m atoms)

/-- the run to limit `L` is the unlimited run on fuel `L` -/
theorem runTo_eq (o : Opts) (m : MolG) (g : Geo) (atoms : List Nat) (L : Nat) :
    runTo o m g atoms L = iterate { o with level := -1 } m g atoms L (initState o m atoms) :=
  iterate_limit_irrelevant o L m g atoms L _ (Nat.le_of_eq (Nat.zero_add L))

theorem runFp_limited (o : Opts) (m : MolG) (g : Geo) (L : Nat) (h1 : retained o m ≠ [])
    (h2 : ∀ e ∈ m.bonds, e.2.2 ≠ 0) :
    runFp { o with level := (L : Int) } m g = .ok (runTo o m g (retained o m) L) := by
  have hL : ¬ ((L : Int) = -1) := Int.noConfusion
  refine (runFp_ok_iff _ m g _).2 ⟨fun h => absurd h hL, h2, h1, ?_⟩
  rewrite [runFuel, if_neg hL, Int.toNat_natCast]
  rfl

theorem runFp_runTo (o : Opts) (m : MolG) (g : Geo) (L : Nat) (s : FState)
    (h : runFp { o with level := (L : Int) } m g = .ok s) :
    s = runTo o m g (retained o m) L := by
  obtain ⟨_, h2, h1, _⟩ := (runFp_ok_iff _ m g s).1 h
  exact Except.ok.inj (h.symm.trans (runFp_limited o m g L h1 h2))

/-- the run to limit `k` reaches level `k`, or it has stopped for good and a higher limit changes nothing -/
theorem runTo_full_or_stable (o : Opts) (m : MolG) (g : Geo) (atoms : List Nat) (k L : Nat) (hkL : k ≤ L) :
    (runTo o m g atoms k).levelShells.length = k + 1 ∨ runTo o m g atoms L = runTo o m g atoms k := by
  rewrite [runTo_eq, runTo_eq]
  rcases iterate_full_or_stopped { o with level := -1 } m g atoms k (initState o m atoms) with h | h
  · exact Or.inl (h.trans (Nat.add_comm 1 k))
  · exact Or.inr (iterate_stable _ m g atoms k L _ h hkL)

/-- the levels of the run to limit `k` are the first `k + 1` levels of the run to any limit `L ≥ k`
(all of them, if that run stopped earlier) -/
theorem truncation_eq (o : Opts) (m : MolG) (g : Geo) (atoms : List Nat) (k L : Nat) (hkL : k ≤ L) :
    (runTo o m g atoms k).levelShells = (runTo o m g atoms L).levelShells.take (k + 1) := by
  rcases runTo_full_or_stable o m g atoms k L hkL with h | h
  · rewrite [← h, ← List.prefix_iff_eq_take, runTo_eq, runTo_eq]
    exact iterate_levelShells_mono _ m g atoms k L _ hkL
  · rw [h, List.take_of_length_le, runTo_eq]
    exact Nat.le_trans (iterate_length _ m g atoms k _).1 (Nat.le_of_eq (Nat.add_comm 1 k))

/-- **truncation**: the levels of the run to limit `k` are a prefix of the levels of the run to any
limit `L ≥ k`; when the longer run reaches level `k` they are exactly its first `k+1` levels (they are in
any case: `truncation_eq`) -/
theorem truncation (o : Opts) (m : MolG) (g : Geo) (atoms : List Nat) (k L : Nat) (hkL : k ≤ L) :
    (runTo o m g atoms k).levelShells <+: (runTo o m g atoms L).levelShells ∧
    (k + 1 ≤ (runTo o m g atoms L).levelShells.length →
      (runTo o m g atoms L).levelShells.take (k + 1) = (runTo o m g atoms k).levelShells) := by
  rewrite [truncation_eq o m g atoms k L hkL]
  exact ⟨List.take_prefix _ _, fun _ => rfl⟩

/-- in general: the shorter run's levels are the longer run's levels cut at the shorter run's length -/
theorem truncation_take (o : Opts) (m : MolG) (g : Geo) (atoms : List Nat) (k L : Nat) (hkL : k ≤ L) :
    (runTo o m g atoms L).levelShells.take (runTo o m g atoms k).levelShells.length
      = (runTo o m g atoms k).levelShells :=
  (List.prefix_iff_eq_take.1 (truncation o m g atoms k L hkL).1).symm

/-- level by level: level `j ≤ k` of the run to limit `L ≥ k` is level `j` of the run to limit `k`,
whenever the shorter run has that level -/
theorem truncation_level (o : Opts) (m : MolG) (g : Geo) (atoms : List Nat) (j k L : Nat) (hkL : k ≤ L)
    (hj : j < (runTo o m g atoms k).levelShells.length) :
    (runTo o m g atoms L).levelShells.getD j [] = (runTo o m g atoms k).levelShells.getD j [] := by
  obtain ⟨t, ht⟩ := (truncation o m g atoms k L hkL).1
  rw [← ht, List.getD_eq_getElem?_getD, List.getD_eq_getElem?_getD, List.getElem?_append_left hj]

theorem truncation_run (o : Opts) (m : MolG) (g : Geo) (k L : Nat) (hkL : k ≤ L) (sk sL : FState)
    (hk : runFp { o with level := (k : Int) } m g = .ok sk)
    (hL : runFp { o with level := (L : Int) } m g = .ok sL) :
    sk.levelShells <+: sL.levelShells ∧
    (k + 1 ≤ sL.levelShells.length → sL.levelShells.take (k + 1) = sk.levelShells) := by
  rewrite [runFp_runTo o m g k sk hk, runFp_runTo o m g L sL hL]
  exact truncation o m g (retained o m) k L hkL

theorem beyond_last_none (s : FState) (k : Int) (mask : List Nat)
    (h : k < 0 ∨ (s.levelShells.length : Int) ≤ k) :
    shellsAt s (some k) mask = shellsAt s none mask := by
  unfold shellsAt
  rw [resolveLevel, resolveLevel,
    if_neg fun hc => h.elim (Int.not_lt.2 hc.1) (Int.not_le.2 ((Int.toNat_lt hc.1).1 hc.2))]

theorem beyond_last (s : FState) (k : Int) (mask : List Nat)
    (h : k < 0 ∨ (s.levelShells.length : Int) ≤ k) :
    shellsAt s (some k) mask = shellsAt s (some (-1)) mask :=
  (beyond_last_none s k mask h).trans (beyond_last_none s (-1) mask (Or.inl (by decide))).symm

theorem step_accepts (o : Opts) (m : MolG) (g : Geo) (atoms : List Nat) (s s' : FState)
    (h : stepState o m g atoms s = some s') : (stepAccepted o m g atoms s).2 ≠ [] := by
  have hne := stepNext_grows o m g atoms s (stepState_some o m g atoms s s' h).1
  intro he
  rewrite [he, unionShells_nil] at hne
  exact hne rfl

/-- `past` grows strictly in every successful step (under `remove_duplicate_substructs`) -/
theorem past_grows (o : Opts) (m : MolG) (g : Geo) (atoms : List Nat) (s s' : FState)
    (hd : o.removeDup = true) (h : stepState o m g atoms s = some s') :
    s'.past.length > s.past.length ∧ s.past <+: s'.past := by
  have hacc := step_accepts o m g atoms s s' h
  obtain ⟨_, rfl⟩ := stepState_some o m g atoms s s' h
  show (stepAccepted o m g atoms s).1.length > _ ∧ _ <+: (stepAccepted o m g atoms s).1
  rewrite [stepAccepted_past o m g atoms s hd]
  refine ⟨?_, List.prefix_append _ _⟩
  rewrite [List.length_append, List.length_map]
  exact Nat.lt_add_of_pos_right (List.length_pos_iff.2 hacc)

/-- the convergence invariant: no atom outside `atoms` is stored, and the substructures recorded since
the start (`added`) are distinct substructures over `atoms`, at least `a` of them -/
def ConvInv (atoms : List Nat) (p0 : List (List Nat)) (s : FState) (a : Nat) : Prop :=
  Mono.StateIn atoms s ∧
  ∃ added, s.past = p0 ++ added ∧ added.Nodup ∧ (∀ p ∈ added, SubOf atoms p) ∧ a ≤ added.length

theorem conv_init (o : Opts) (m : MolG) (atoms : List Nat) :
    ConvInv atoms (initState o m atoms).past (initState o m atoms) 0 :=
  ⟨Mono.initState_in o m atoms, [], (List.append_nil _).symm, List.nodup_nil, fun _ hp => (List.not_mem_nil hp).elim,
    Nat.le_refl _⟩

theorem conv_step (o : Opts) (m : MolG) (g : Geo) (atoms : List Nat) (p0 : List (List Nat))
    (s s' : FState) (a : Nat) (hd : o.removeDup = true) (hinv : ConvInv atoms p0 s a)
    (h : stepState o m g atoms s = some s') : ConvInv atoms p0 s' (a + 1) := by
  have hacc := step_accepts o m g atoms s s' h
  obtain ⟨_, rfl⟩ := stepState_some o m g atoms s s' h
  obtain ⟨hin, added, hpast, hnd, hsub, hlen⟩ := hinv
  have hp := stepAccepted_past o m g atoms s hd
  have hgen' : ∀ x ∈ (genLevel o m g atoms (s.gen.getLastD []) (s.currentLevel + 1) s.tbl).2,
      SubOf atoms x.sub := by
    rewrite [Rl.genLevel_eq_map]
    exact List.forall_mem_map.2 fun a ha => ⟨strictAsc_uniq _, Rl.genShellT_sub_subset o m g atoms _
      (fun x hx => (getLastD_in hin.gen x hx).2) _ _ a ha⟩
  refine ⟨Mono.stepState_in hin h, added ++ (stepAccepted o m g atoms s).2.map (·.sub),
    hp.trans (by rw [hpast, List.append_assoc]), ?_, ?_, ?_⟩
  · rewrite [List.nodup_append]
    refine ⟨hnd, stepAccepted_nodup o m g atoms s hd, ?_⟩
    intro p hp q hq hpq
    rcases List.mem_map.1 hq with ⟨x, hx, rfl⟩
    apply stepAccepted_not_past o m g atoms s hd x hx
    rewrite [hpast, ← hpq]
    exact List.mem_append_right _ hp
  · intro p hp
    rcases List.mem_append.1 hp with hp | hp
    · exact hsub p hp
    · rcases List.mem_map.1 hp with ⟨x, hx, rfl⟩
      exact hgen' x (stepAccepted_subset o m g atoms s x hx)
  · rewrite [List.length_append, List.length_map]
    exact Nat.add_le_add hlen (List.length_pos_iff.2 hacc)

theorem conv_bound (atoms : List Nat) (p0 : List (List Nat)) (s : FState) (a : Nat)
    (hinv : ConvInv atoms p0 s a) : a ≤ 2 ^ atoms.length := by
  obtain ⟨_, added, _, hnd, hsub, hlen⟩ := hinv
  exact Nat.le_trans hlen (card_subsets atoms added hnd hsub)

/-- **convergence**: with duplicate-substructure removal the iteration stops on its own after at
most `2^|atoms|` steps, whatever the level limit -/
theorem converges (o : Opts) (m : MolG) (g : Geo) (atoms : List Nat) (hd : o.removeDup = true) :
    ∃ n, n ≤ 2 ^ atoms.length ∧
      stepState o m g atoms (iterate o m g atoms n (initState o m atoms)) = none := by
  refine ⟨2 ^ atoms.length, Nat.le_refl _, ?_⟩
  -- a state with `l` levels has recorded at least `l - 1` substructures; after `2^|atoms|` successful
  -- steps one more would record a substructure too many
  obtain ⟨a, hinv, hlen⟩ := iterate_induction o m g atoms
    (fun s => ∃ a, ConvInv atoms (initState o m atoms).past s a ∧ s.levelShells.length ≤ a + 1)
    (fun s s' ⟨a, hinv, hlen⟩ hs => ⟨a + 1, conv_step o m g atoms _ s s' a hd hinv hs, by
      obtain ⟨⟨ls, hls, _, _⟩, _⟩ := step_levelShells o m g atoms s s' hs
      rewrite [hls, List.length_append]
      exact Nat.add_le_add_right hlen 1⟩)
    (2 ^ atoms.length) _ ⟨0, conv_init o m atoms, Nat.le_refl 1⟩
  rcases iterate_full_or_stopped o m g atoms (2 ^ atoms.length) (initState o m atoms) with hfull | hstop
  · cases hs : stepState o m g atoms (iterate o m g atoms (2 ^ atoms.length) (initState o m atoms)) with
    | none => rfl
    | some s' =>
      exact absurd
        (Nat.le_trans (hfull ▸ hlen) (conv_bound atoms _ s' _ (conv_step o m g atoms _ _ s' a hd hinv hs)))
        (Nat.not_le.2 (Nat.lt_add_of_pos_left Nat.one_pos))
  · exact hstop

/-- **level -1 means convergence**: the state `runFp` returns for `level = -1` is a fixed point of
the iteration — the run stopped by one of the stop rules, not because the fuel ran out -/
theorem run_converged (o : Opts) (m : MolG) (g : Geo) (s : FState) (hl : o.level = -1)
    (h : runFp o m g = .ok s) : stepState o m g (retained o m) s = none := by
  obtain ⟨h1, _, _, rfl⟩ := (runFp_ok_iff o m g s).1 h
  have hd := h1 hl
  obtain ⟨n, hn, hstop⟩ := converges o m g (retained o m) hd
  rewrite [iterate_stable o m g _ n _ _ hstop (by rewrite [runFuel, if_pos hl]; exact Nat.le_succ_of_le hn)]
  exact hstop

/-- … and the stop was not the level rule: either every substructure is complete or the next level
adds no shell -/
theorem run_converged_reason (o : Opts) (m : MolG) (g : Geo) (s : FState) (hl : o.level = -1)
    (h : runFp o m g = .ok s) :
    (s.gen.getLastD []).all (fun x => x.sub.length == (retained o m).length) = true ∨
    (unionShells (s.levelShells.getLastD []) (stepAccepted o m g (retained o m) s).2).length
      = (s.levelShells.getLastD []).length := by
  rcases (stops_iff o m g _ s).1 ((stepState_none_iff o m g _ s).1 (run_converged o m g s hl h)) with h1 | h2 | h3
  · exact absurd hl h1.1
  · exact Or.inl h2.2
  · exact Or.inr h3

/-- a level limit at or beyond the point of convergence gives the levels of the `-1` run -/
theorem large_limit_eq_converged (o : Opts) (m : MolG) (g : Geo) (atoms : List Nat)
    (hd : o.removeDup = true) (L : Nat) (hL : 2 ^ atoms.length ≤ L) :
    runTo o m g atoms L =
      iterate { o with level := -1 } m g atoms (2 ^ atoms.length + 1) (initState o m atoms) := by
  rewrite [runTo_eq]
  obtain ⟨n, hn, hstop⟩ := converges { o with level := -1 } m g atoms hd
  rewrite [initState_level] at hstop
  rw [iterate_stable _ m g atoms n L _ hstop (Nat.le_trans hn hL),
    iterate_stable _ m g atoms n (2 ^ atoms.length + 1) _ hstop (Nat.le_succ_of_le hn)]

/-- every limited run is a truncation of the converged (`level = -1`) run -/
theorem truncation_converged (o : Opts) (m : MolG) (g : Geo) (atoms : List Nat)
    (hd : o.removeDup = true) (k : Nat) :
    (runTo o m g atoms k).levelShells <+:
      (iterate { o with level := -1 } m g atoms (2 ^ atoms.length + 1) (initState o m atoms)).levelShells := by
  by_cases hk : 2 ^ atoms.length ≤ k
  · rewrite [large_limit_eq_converged o m g atoms hd k hk]; exact List.prefix_refl _
  · rewrite [runTo_eq]
    exact iterate_levelShells_mono _ m g atoms k _ _ (Nat.le_succ_of_le (Nat.le_of_not_le hk))

/-! ## non-vacuity: the hypotheses above are met by the four-atom chain of `Lemmas/FprinterEx.lean` -/
section NonVacuity
open Ex

/- `step_levelShells`, `step_currentLevel`, `past_grows`, `step_accepts`: a step that succeeds -/
example : ∃ s', stepState o m g atoms s0 = some s' := Option.isSome_iff_exists.1 step0_some
example : s0.gen ≠ [] := by simp [s0, initState]
example : o.removeDup = true := rfl
example : ∃ s', stepState o m g atoms s0 = some s' ∧ s'.currentLevel = s0.currentLevel + 1 := by
  obtain ⟨s', h⟩ := Option.isSome_iff_exists.1 step0_some
  exact ⟨s', h, step_currentLevel o m g atoms s0 s' (by simp [s0, initState]) h⟩

/-! The runs to other limits are read off the one evaluated run `sN 3` (`Ex.facts`) by the theorems
above: evaluating each of them would cost as much again. -/

theorem ex_runTo3 : runTo o m g atoms 3 = sN 3 := rfl

theorem ex_runTo1 : (runTo o m g atoms 1).levelShells.map (·.length) = [4, 8] := by
  rewrite [truncation_eq o m g atoms 1 3 (by decide), ex_runTo3, List.map_take, lengths]; rfl

/-- without limit: `sN 3` has fewer levels than its fuel allowed, so the run had stopped by itself -/
theorem ex_unlimited (n : Nat) (hn : 3 ≤ n) : iterate { o with level := -1 } m g atoms n s0 = sN 3 := by
  have e : iterate { o with level := -1 } m g atoms 3 s0 = sN 3 := (runTo_eq o m g atoms 3).symm
  rw [iterate_stable _ m g atoms 3 n s0
    ((iterate_length _ m g atoms 3 s0).2 (by rewrite [e, levels]; decide)) hn, e]

theorem ex_run_unlimited : runFp { o with level := -1 } m g = .ok (sN 3) :=
  -- 17 = 2^4 + 1, the fuel of an unlimited run on four atoms
  (run_eq (-1) g).trans (congrArg _ (ex_unlimited 17 (by decide)))

/- `nested`, `nested_idents`, `nested_le`: levels 0 < 1 < 2 all exist after three units of fuel -/
set_option maxRecDepth 100000 in
example : 1 + 1 < (iterate o m g atoms 3 (initState o m atoms)).levelShells.length :=
  Nat.lt_of_lt_of_eq (by decide) levels.symm

/- `nested_run`, `truncation_run`, `run_converged`: runs that succeed, and reach level 2 -/
set_option maxRecDepth 100000 in
example : (runFp o m g).toOption.map (·.levelShells.map (·.length)) = some [4, 8, 9] := by
  rewrite [run_ok]; exact congrArg some lengths
set_option maxRecDepth 100000 in
example : (runFp { o with level := 1 } m g).toOption.map (·.levelShells.map (·.length)) = some [4, 8] := by
  rewrite [show runFp { o with level := 1 } m g = .ok (runTo o m g atoms 1) from run_eq 1 g]
  exact congrArg some ex_runTo1
set_option maxRecDepth 100000 in
example : (runFp { o with level := -1 } m g).toOption.map (·.levelShells.map (·.length)) = some [4, 8, 9] := by
  rewrite [ex_run_unlimited]; exact congrArg some lengths
example : ∃ s, runFp { o with level := -1 } m g = .ok s ∧ ({ o with level := -1 } : Opts).level = -1 :=
  ⟨_, ex_run_unlimited, rfl⟩

/- `step_level_irrelevant`: the start state is below the limits 3 and 1 -/
example : ¬ (o.level ≠ -1 ∧ (s0.currentLevel : Int) ≥ o.level) ∧
    ¬ ((1 : Int) ≠ -1 ∧ (s0.currentLevel : Int) ≥ 1) := by decide +kernel

/- `step_at_limit`: with limit 0 the start state is at the limit -/
example : ({ o with level := 0 } : Opts).level ≠ -1 ∧
    ((s0.currentLevel : Int) ≥ ({ o with level := 0 } : Opts).level) := by decide

/- `iterate_limit_irrelevant`: from level 0, three steps stay within limit 3 -/
example : s0.currentLevel + 3 ≤ 3 := by decide +kernel

/- `truncation`: the run to limit 3 reaches level 1, and the run to limit 1 really is shorter -/
set_option maxRecDepth 100000 in
example : 1 + 1 ≤ (runTo o m g atoms 3).levelShells.length ∧
    (runTo o m g atoms 1).levelShells.length < (runTo o m g atoms 3).levelShells.length := by
  rewrite [ex_runTo3, levels, ← List.length_map (f := (·.length)), ex_runTo1]; decide

/- `truncation_level` -/
set_option maxRecDepth 100000 in
example : 1 < (runTo o m g atoms 1).levelShells.length := by
  rewrite [← List.length_map (f := (·.length)), ex_runTo1]; decide

/- `beyond_last`: level 7 was never generated -/
set_option maxRecDepth 100000 in
example : (7 : Int) < 0 ∨ (((sN 3).levelShells.length : Nat) : Int) ≤ 7 := by rewrite [levels]; decide

/- `large_limit_eq_converged` -/
example : o.removeDup = true ∧ 2 ^ atoms.length ≤ 16 := by decide

/- `conv_step`, `conv_bound`: the invariant holds at the start (`conv_init`) -/
example : ConvInv atoms s0.past s0 0 := conv_init o m atoms

end NonVacuity

end E3fpVerif.Props.C12
