import E3fpVerif.Model.Entry
import E3fpVerif.Lemmas.Entry
import E3fpVerif.Lemmas.FpAux
import E3fpVerif.Props.C07
import E3fpVerif.Props.C02
import E3fpVerif.Props.C04
import E3fpVerif.Props.C12
import E3fpVerif.Props.C14
/-!
# C14 (entry point) — `fprints_dict_from_mol` equals direct fingerprinting of the first `N` conformers

`entryRun` runs every conformer on **one** reused `Fingerprinter` object and appends to a per-level
dictionary; `entrySpec` fingerprints each of the first `N` conformers with a *fresh* fingerprinter.
`entry_eq_direct` proves them equal: `Props/C04.lean` (`run_eq_fresh`) removes the reused object, then loop
and specification are each brought to the same table of directly computed cells.  `entry_ok_iff` says when
the entry point returns a dictionary and that it is this table; the other properties are read off it,
among them the half of C03 on conformer storage order (`entry_conformer_order`, `entry_conformer_perm`).
-/
namespace E3fpVerif.Props.C14Entry
open E3fpVerif
open E3fpVerif.Props

/-- what the loop keeps true of the one fingerprinter object: valid caches, a cached identity `mid`
denotes the molecule `m`, and the options are the constructor's -/
def LoopInv (o : Opts) (mid : Nat) (m : MolG) (f : FpObj) : Prop :=
  C04.CacheValid f ∧ (f.molId = some mid → f.molVal = m) ∧ f.o = o

theorem loopInv_new (o : Opts) (mid : Nat) (m : MolG) : LoopInv o mid m (FpObj.new o) :=
  ⟨C04.new_cacheValid o, by intro h; simp [FpObj.new] at h, rfl⟩

theorem loopInv_run (o : Opts) (mid : Nat) (m : MolG) (f : FpObj) (g : Geo) (h : LoopInv o mid m f) :
    LoopInv o mid m (f.run (some mid) m g).1 :=
  C04.run_inv (LoopInv o mid m) (fun _ _ h => h) f (some mid) m g h
    ⟨C04.reset_cacheValid f h.1 _ m,
      fun _ => (C04.reset_fields f h.1 _ m (fun _ he => h.2.1 he.symm)).2.2,
      (C04.reset_o f _ m).trans h.2.2⟩

theorem entryLoop_nil (mid : Nat) (m : MolG) (keys : List Int) (name : Option (List Char)) (j : Nat)
    (f : FpObj) (d : LevelDict) : entryLoop mid m keys name [] j f d = some d := rfl

/-- under the invariant a turn of the loop is a fresh run followed by `collectLevels` -/
theorem entryLoop_cons {o : Opts} {mid : Nat} {m : MolG} {keys : List Int} {name : Option (List Char)} {g : Geo}
    {j : Nat} {rest : List Geo} {f : FpObj} {d : LevelDict} (hinv : LoopInv o mid m f)
    (hbad : ¬ (o.level = -1 ∧ o.removeDup = false)) :
    entryLoop mid m keys name (g :: rest) j f d =
      match runFp o m g with
      | .ok s => (collectLevels o s keys name j d).bind
          fun d' => entryLoop mid m keys name rest (j + 1) (f.run (some mid) m g).1 d'
      | .error _ => none := by
  have hfresh := C04.run_eq_fresh f hinv.1 (some mid) m g (fun _ he => hinv.2.1 he.symm)
  rewrite [hinv.2.2] at hfresh
  replace hfresh := hfresh.resolve_right hbad
  rewrite [entryLoop]
  cases hr : runFp o m g with
  | error e =>
    rewrite [hr] at hfresh
    obtain ⟨h1, h2⟩ := Prod.mk.inj hfresh
    simp only [h1, h2]
  | ok s =>
    rewrite [hr] at hfresh
    obtain ⟨h1, h2⟩ := Prod.mk.inj hfresh
    simp only [h1, h2, hinv.2.2]
    cases collectLevels o s keys name j d <;> rfl

/-! ## the table both sides compute

Specification (`cells_ok`, `cells_none`) and loop (`loop_ok`, `loop_none`) in closed form: the table of
`directCell`s if every level key can be fetched from a fresh run on every conformer (`DirectOk`), else nothing. -/

/-- the fingerprint at key `k` a fresh fingerprinter computes for the geometry `g` (a default where the
run or the fetch fails; never reached below) -/
def directFp (o : Opts) (m : MolG) (k : Int) (g : Geo) : Fp :=
  match runFp o m g with
  | .ok s =>
    match fingerprintAt o s (some k) none [] with
    | .ok f => f
    | .error _ => default
  | .error _ => default

/-- the named fingerprint of conformer `p.2` (geometry `p.1`) under key `k` -/
def directCell (o : Opts) (m : MolG) (name : Option (List Char)) (k : Int) (p : Geo × Nat) : NamedFp :=
  { fp := directFp o m k p.1, name := name.map fun nm => confName nm p.2 }

/-- a fresh run on `g` succeeds and its fingerprint at key `k` can be fetched (it is then `directFp o m k g`) -/
def DirectOk (o : Opts) (m : MolG) (k : Int) (g : Geo) : Prop :=
  ∃ s, runFp o m g = .ok s ∧ fingerprintAt o s (some k) none [] = .ok (directFp o m k g)

section Cells
variable {o : Opts} {m : MolG} {name : Option (List Char)} {keys : List Int} {k : Int} {g : Geo}
  {ps : List (Geo × Nat)}

theorem directOk_of {s : FState} {f : Fp} (hr : runFp o m g = .ok s)
    (hf : fingerprintAt o s (some k) none [] = .ok f) : DirectOk o m k g ∧ directFp o m k g = f := by
  have hd : directFp o m k g = f := by unfold directFp; simp only [hr, hf]
  exact ⟨⟨s, hr, hd ▸ hf⟩, hd⟩

theorem specCell_cases (o : Opts) (m : MolG) (name : Option (List Char)) (k : Int) (g : Geo) (j : Nat) :
    (DirectOk o m k g ∧ specCell o m name k (g, j) = some (directCell o m name k (g, j))) ∨
    (¬ DirectOk o m k g ∧ specCell o m name k (g, j) = none) := by
  cases hr : runFp o m g with
  | error e =>
    refine .inr ⟨?_, specCell_err hr⟩
    rintro ⟨s, hs, _⟩
    exact nomatch hr.symm.trans hs
  | ok s =>
    cases hf : fingerprintAt o s (some k) none [] with
    | error e =>
      refine .inr ⟨?_, by rw [specCell_ok hr, fpCell, hf]⟩
      rintro ⟨s', hs', hf'⟩
      cases hr.symm.trans hs'
      exact nomatch hf.symm.trans hf'
    | ok f =>
      obtain ⟨hok, hd⟩ := directOk_of hr hf
      exact .inl ⟨hok, by rw [specCell_ok hr, fpCell, hf, directCell, hd]⟩

theorem specCell_of_ok {j : Nat} (h : DirectOk o m k g) :
    specCell o m name k (g, j) = some (directCell o m name k (g, j)) :=
  ((specCell_cases o m name k g j).resolve_right fun hn => hn.1 h).2

theorem specCell_of_not {j : Nat} (h : ¬ DirectOk o m k g) : specCell o m name k (g, j) = none :=
  ((specCell_cases o m name k g j).resolve_left fun hn => h hn.1).2

theorem cells_ok (h : ∀ g ∈ ps.map Prod.fst, ∀ k ∈ keys, DirectOk o m k g) :
    keys.mapM (fun k => (ps.mapM (specCell o m name k)).map (fun l => (k, l)))
      = some (keys.map fun k => (k, ps.map (directCell o m name k))) := by
  refine omapM_some_map _ _ keys fun k hk => ?_
  rewrite [omapM_some_map _ (directCell o m name k) ps fun p hp => specCell_of_ok (h p.1 (List.mem_map_of_mem hp) k hk)]
  rfl

theorem cells_none (hg : g ∈ ps.map Prod.fst) (hk : k ∈ keys) (h : ¬ DirectOk o m k g) :
    keys.mapM (fun k => (ps.mapM (specCell o m name k)).map (fun l => (k, l))) = none := by
  obtain ⟨p, hp, rfl⟩ := List.mem_map.1 hg
  refine omapM_none_of_mem _ keys k hk ?_
  rewrite [omapM_none_of_mem _ ps p hp (specCell_of_not h)]
  rfl

theorem loop_ok {mid : Nat} (hnd : keys.Nodup) (hne : keys ≠ []) (hbad : ¬ (o.level = -1 ∧ o.removeDup = false)) :
    ∀ (gs : List Geo) (j : Nat) (f : FpObj) (d : LevelDict) (col : Int → List NamedFp),
      LoopInv o mid m f → DictShape keys d col → (∀ g ∈ gs, ∀ k ∈ keys, DirectOk o m k g) →
      entryLoop mid m keys name gs j f d =
        some (if gs = [] then d
              else keys.map fun k => (k, col k ++ (gs.zipIdx j).map (directCell o m name k))) := by
  intro gs
  induction gs with
  | nil => intro j f d col _ _ _; rfl
  | cons g rest ih =>
    intro j f d col hinv hd hok
    -- the run succeeds since some key can be fetched; then every key's cell is the direct cell
    obtain ⟨k₀, hk₀⟩ := List.exists_mem_of_ne_nil keys hne
    obtain ⟨s, hr, _⟩ := hok g List.mem_cons_self k₀ hk₀
    have hall : ∀ k ∈ keys, fpCell o s name j k = some (directCell o m name k (g, j)) := fun k hk =>
      (specCell_ok hr).symm.trans (specCell_of_ok (hok g List.mem_cons_self k hk))
    rewrite [if_neg (List.cons_ne_nil _ _), entryLoop_cons hinv hbad, hr]
    simp only [collectLevels_shape hnd hd hall, Option.bind_some]
    rewrite [ih (j + 1) _ _ (fun k => col k ++ [directCell o m name k (g, j)]) (loopInv_run o mid m f g hinv)
           (Or.inl rfl) fun g' hg' => hok g' (List.mem_cons_of_mem _ hg')]
    cases rest with
    | nil => rfl
    | cons g' rest' => simp [List.zipIdx_cons]

theorem loop_none {mid : Nat} (hbad : ¬ (o.level = -1 ∧ o.removeDup = false)) (hk : k ∈ keys)
    (hn : ¬ DirectOk o m k g) :
    ∀ (gs : List Geo) (j : Nat) (f : FpObj) (d : LevelDict), LoopInv o mid m f → g ∈ gs →
      entryLoop mid m keys name gs j f d = none := by
  intro gs
  induction gs with
  | nil => intro _ _ _ _ hg; cases hg
  | cons g' rest ih =>
    intro j f d hinv hg
    rewrite [entryLoop_cons hinv hbad]
    cases hr : runFp o m g' with
    | error e => rfl
    | ok s =>
      rcases List.mem_cons.1 hg with rfl | hg'
      · simp only [collectLevels_none hk ((specCell_ok hr).symm.trans (specCell_of_not hn)), Option.bind_none]
      · show (collectLevels o s keys name j d).bind _ = none
        cases collectLevels o s keys name j d with
        | none => rfl
        | some d' => exact ih (j + 1) _ d' (loopInv_run o mid m f g' hinv) hg'

variable (o m keys) in
theorem directOk_all_or (gs : List Geo) :
    (∀ g ∈ gs, ∀ k ∈ keys, DirectOk o m k g) ∨ ∃ g ∈ gs, ∃ k ∈ keys, ¬ DirectOk o m k g :=
  Classical.or_iff_not_imp_right.2 fun h g hg k hk => Classical.byContradiction fun hn => h ⟨g, hg, k, hk, hn⟩

theorem loop_eq_cells {mid : Nat} (hnd : keys.Nodup) (hne : keys ≠ []) (hbad : ¬ (o.level = -1 ∧ o.removeDup = false))
    (gs : List Geo) :
    entryLoop mid m keys name gs 0 (FpObj.new o) [] =
      if gs = [] then some []
      else keys.mapM fun k => ((gs.zipIdx).mapM (specCell o m name k)).map fun l => (k, l) := by
  rcases directOk_all_or o m keys gs with hF | ⟨g, hg, k, hk, hn⟩
  · rewrite [loop_ok hnd hne hbad gs 0 _ [] (fun _ => []) (loopInv_new o mid m) (Or.inr ⟨rfl, fun _ => rfl⟩) hF]
    by_cases hgs : gs = []
    · rw [if_pos hgs, if_pos hgs]
    · rewrite [if_neg hgs, if_neg hgs, cells_ok (by rwa [List.zipIdx_map_fst])]
      simp only [List.nil_append]
  · rw [loop_none hbad hk hn gs 0 _ [] (loopInv_new o mid m) hg, if_neg (List.ne_nil_of_mem hg),
      cells_none (by rwa [List.zipIdx_map_fst]) hk hn]

end Cells

/-- the geometry standing for a missing conformer in `entrySpec` (never reached: `j < N ≤ length`) -/
def noGeo : Geo := ⟨fun _ _ _ => false, fun _ _ => []⟩

theorem zipIdx_take_eq (geos : List Geo) (n : Nat) (hn : n ≤ geos.length) :
    (geos.take n).zipIdx 0 = (List.range n).map (fun j => (geos.getD j noGeo, j)) := by
  apply List.ext_getElem
  · rw [List.length_zipIdx, List.length_take, List.length_map, List.length_range, Nat.min_eq_left hn]
  · intro i _ h2
    rewrite [List.length_map, List.length_range] at h2
    rw [List.getElem_zipIdx, List.getElem_take, List.getElem_map, List.getElem_range, Nat.zero_add,
      List.getD_eq_getElem?_getD, List.getElem?_eq_getElem (Nat.lt_of_lt_of_le h2 hn), Option.getD_some]

theorem entrySpec_eq (o : Opts) (m : MolG) (geos : List Geo) (name : Option (List Char)) (first : Int)
    (allIters : Bool) :
    entrySpec o m geos name first allIters =
      if firstN first geos.length = 0 then some []
      else (levelKeys o.level allIters).mapM (fun k =>
        (((geos.take (firstN first geos.length)).zipIdx).mapM (specCell o m name k)).map (fun l => (k, l))) := by
  rewrite [zipIdx_take_eq geos _ (C14.firstN_le first geos.length)]
  simp only [List.mapM_map]
  rfl

theorem refused_iff (o : Opts) : (o.level = -1 && !o.removeDup) = true ↔ o.level = -1 ∧ o.removeDup = false := by
  rw [Bool.and_eq_true, decide_eq_true_eq, Bool.not_eq_true']

/-- the entry point returns, for every level key, exactly the fingerprints that direct (fresh)
fingerprinting of each of the first `N` conformers returns, in conformer order, named
`<molecule>_<index>` -/
theorem entry_eq_direct (o : Opts) (mid : Nat) (m : MolG) (geos : List Geo) (name : Option (List Char))
    (first : Int) (allIters : Bool) :
    entryRun o mid m geos name first allIters =
      (if o.level = -1 && !o.removeDup then .error .other
       else .ok (entrySpec o m geos name first allIters)) := by
  unfold entryRun
  by_cases hc : (o.level = -1 && !o.removeDup) = true
  · rw [if_pos hc, if_pos hc]
  · rewrite [if_neg hc, if_neg hc]
    refine congrArg Except.ok ?_
    rewrite [loop_eq_cells (C14.levelKeys_nodup _ _) (C14.levelKeys_ne_nil _ _) (mt (refused_iff o).2 hc), entrySpec_eq]
    by_cases h0 : firstN first geos.length = 0
    · rw [if_pos h0, if_pos (by rewrite [h0]; rfl)]
    · have hne : geos.take (firstN first geos.length) ≠ [] := fun h =>
        h0 (by simpa [Nat.min_eq_left (C14.firstN_le first geos.length)] using congrArg List.length h)
      rw [if_neg h0, if_neg hne]

/-! ## what the entry point returns -/

section
variable {o : Opts} {m : MolG} {name : Option (List Char)} {keys : List Int} {ps : List (Geo × Nat)}

theorem cells_iff {d : LevelDict} :
    keys.mapM (fun k => (ps.mapM (specCell o m name k)).map (fun l => (k, l))) = some d ↔
      (∀ g ∈ ps.map Prod.fst, ∀ k ∈ keys, DirectOk o m k g) ∧
      d = keys.map fun k => (k, ps.map (directCell o m name k)) := by
  rcases directOk_all_or o m keys (ps.map Prod.fst) with hF | ⟨g, hg, k, hk, hn⟩
  · rewrite [cells_ok hF, Option.some.injEq, eq_comm]
    exact (and_iff_right hF).symm
  · rewrite [cells_none hg hk hn]
    exact ⟨nofun, fun h => absurd (h.1 g hg k hk) hn⟩

end

section Consequences
variable {o : Opts} {mid : Nat} {m : MolG} {geos : List Geo} {name : Option (List Char)} {first : Int}
  {allIters : Bool} {d : LevelDict}

theorem entry_ok_iff :
    entryRun o mid m geos name first allIters = .ok (some d) ↔
      ¬ (o.level = -1 ∧ o.removeDup = false) ∧
      (∀ g ∈ geos.take (firstN first geos.length), ∀ k ∈ levelKeys o.level allIters, DirectOk o m k g) ∧
      d = if firstN first geos.length = 0 then []
          else (levelKeys o.level allIters).map fun k =>
            (k, ((geos.take (firstN first geos.length)).zipIdx).map (directCell o m name k)) := by
  by_cases hbad : o.level = -1 ∧ o.removeDup = false
  · rewrite [entry_eq_direct, if_pos ((refused_iff o).2 hbad)]
    exact ⟨nofun, fun h => absurd hbad h.1⟩
  · rewrite [entry_eq_direct, if_neg (mt (refused_iff o).1 hbad), entrySpec_eq, Except.ok.injEq, and_iff_right hbad]
    by_cases h0 : firstN first geos.length = 0
    · rewrite [if_pos h0, if_pos h0, h0, List.take_zero, Option.some.injEq, eq_comm]
      exact (and_iff_right fun _ h => (List.not_mem_nil h).elim).symm
    · rw [if_neg h0, if_neg h0, cells_iff, List.zipIdx_map_fst]

theorem entry_mem (h : entryRun o mid m geos name first allIters = .ok (some d))
    (p : Int × List NamedFp) (hp : p ∈ d) :
    p.1 ∈ levelKeys o.level allIters ∧
      p.2 = ((geos.take (firstN first geos.length)).zipIdx).map (directCell o m name p.1) := by
  obtain ⟨_, _, rfl⟩ := entry_ok_iff.1 h
  split at hp
  · cases hp
  · obtain ⟨k, hk, rfl⟩ := List.mem_map.1 hp
    exact ⟨hk, rfl⟩

theorem entry_len (h : entryRun o mid m geos name first allIters = .ok (some d))
    (p : Int × List NamedFp) (hp : p ∈ d) : p.2.length = firstN first geos.length := by
  rewrite [(entry_mem h p hp).2]
  simp [Nat.min_eq_left (C14.firstN_le first geos.length)]

theorem entry_keys (h : entryRun o mid m geos name first allIters = .ok (some d)) :
    d.map (·.1) = if firstN first geos.length = 0 then [] else levelKeys o.level allIters := by
  obtain ⟨_, _, rfl⟩ := entry_ok_iff.1 h
  split
  · rfl
  · rewrite [List.map_map]
    exact List.map_id _

theorem entry_cell (h : entryRun o mid m geos name first allIters = .ok (some d))
    (p : Int × List NamedFp) (hp : p ∈ d) (j : Nat) (hj : j < p.2.length) :
    ∃ hg : j < geos.length, p.2[j] = directCell o m name p.1 (geos[j], j) ∧ DirectOk o m p.1 geos[j] := by
  obtain ⟨hk, e⟩ := entry_mem h p hp
  have hN : j < firstN first geos.length := entry_len h p hp ▸ hj
  have hg : j < geos.length := Nat.lt_of_lt_of_le hN (C14.firstN_le first geos.length)
  refine ⟨hg, by simp [e], (entry_ok_iff.1 h).2.1 _ ?_ _ hk⟩
  exact List.mem_take_iff_getElem.2 ⟨j, Nat.lt_min.2 ⟨hN, hg⟩, rfl⟩

/-- **count**: every list of a returned dictionary has one fingerprint per processed conformer, and
(when at least one conformer is processed) the keys are exactly the level keys, in order; with no
conformer the dictionary is empty -/
theorem entry_count (h : entryRun o mid m geos name first allIters = .ok (some d)) :
    (∀ p ∈ d, p.2.length = firstN first geos.length) ∧
    (0 < firstN first geos.length → d.map (·.1) = levelKeys o.level allIters) ∧
    (firstN first geos.length = 0 → d = []) := by
  refine ⟨entry_len h, fun hn => ?_, fun hn => List.map_eq_nil_iff.1 ((entry_keys h).trans (if_pos hn))⟩
  rw [entry_keys h, if_neg (Nat.ne_of_gt hn)]

/-- **names**: the `j`-th fingerprint of every list is named `<molecule>_<j>` (no name when the
molecule has none) -/
theorem entry_names (h : entryRun o mid m geos name first allIters = .ok (some d))
    (p : Int × List NamedFp) (hp : p ∈ d) (j : Nat) (hj : j < p.2.length) :
    p.2[j].name = name.map (fun nm => confName nm j) := by
  obtain ⟨_, e, _⟩ := entry_cell h p hp j hj
  rewrite [e]
  rfl

/-- … so within one list the names are pairwise distinct -/
theorem entry_names_nodup (h : entryRun o mid m geos name first allIters = .ok (some d))
    (nm : List Char) (hname : name = some nm) (p : Int × List NamedFp) (hp : p ∈ d) :
    (p.2.map (·.name)).Nodup := by
  rewrite [List.Nodup, List.pairwise_iff_getElem]
  intro i j hi hj hij he
  rewrite [List.length_map] at hi hj
  rewrite [List.getElem_map, List.getElem_map, entry_names h p hp i hi, entry_names h p hp j hj, hname] at he
  exact Nat.ne_of_lt hij (C14.confName_injective_all nm i j (Option.some.inj he))

/-- **the identity of the molecule object is irrelevant** -/
theorem entry_independent_of_mid (o : Opts) (mid mid' : Nat) (m : MolG) (geos : List Geo)
    (name : Option (List Char)) (first : Int) (allIters : Bool) :
    entryRun o mid m geos name first allIters = entryRun o mid' m geos name first allIters := by
  rw [entry_eq_direct, entry_eq_direct]

/-- **prefix**: the result for a cut-off `first` is, list by list, the length-`N` prefix of the
result for all conformers (`first = -1`), whenever the latter is a dictionary; with `N = 0` it is the
empty dictionary.  (No sign condition on `first` is needed: a negative `first` means all conformers.) -/
theorem entry_prefix {dAll : LevelDict}
    (hall : entryRun o mid m geos name (-1) allIters = .ok (some dAll)) :
    entryRun o mid m geos name first allIters =
      .ok (some (if firstN first geos.length = 0 then []
                 else dAll.map (fun p => (p.1, p.2.take (firstN first geos.length))))) := by
  obtain ⟨hbad, hF, rfl⟩ := entry_ok_iff.1 hall
  rewrite [C14.firstN_all, List.take_length] at hF
  refine entry_ok_iff.2 ⟨hbad, fun g hg => hF g (List.mem_of_mem_take hg), ?_⟩
  by_cases hn : firstN first geos.length = 0
  · rw [if_pos hn, if_pos hn]
  · have hle := C14.firstN_le first geos.length
    rewrite [if_neg hn, if_neg hn, C14.firstN_all, if_neg (Nat.ne_of_gt (Nat.lt_of_lt_of_le (Nat.pos_of_ne_zero hn) hle)),
           List.take_length, List.map_map]
    refine List.map_congr_left fun k _ => ?_
    rw [Function.comp, ← take_zipIdx, List.map_take]

end Consequences

theorem shellsAt_runTo (o : Opts) (m : MolG) (g : Geo) (atoms : List Nat) (K L : Nat) (hKL : K ≤ L)
    (mask : List Nat) :
    shellsAt (C12.runTo o m g atoms K) (some (K : Int)) mask
      = shellsAt (C12.runTo o m g atoms L) (some (K : Int)) mask := by
  rcases C12.runTo_full_or_stable o m g atoms K L hKL with h | h
  · have hK : K < (C12.runTo o m g atoms K).levelShells.length := h ▸ Nat.lt_succ_self K
    unfold shellsAt
    rw [resolveLevel_lt _ K hK,
      resolveLevel_lt _ K (Nat.lt_of_lt_of_le hK (C12.truncation o m g atoms K L hKL).1.length_le),
      C12.truncation_level o m g atoms K K L hKL hK]
  · rw [h]

/-- the fingerprint at a level key `0 ≤ k ≤ level` of a run is the fingerprint a separate run
limited to `k` returns (and that run succeeds) -/
theorem limited_run {o : Opts} {m : MolG} {g : Geo} {s : FState} (hl : 0 ≤ o.level)
    (hr : runFp o m g = .ok s) {k : Int} (hk0 : 0 ≤ k) (hkl : k ≤ o.level) :
    ∃ sk, runFp { o with level := k } m g = .ok sk ∧
      fingerprintAt { o with level := k } sk (some k) none [] = fingerprintAt o s (some k) none [] := by
  obtain ⟨K, rfl⟩ : ∃ K : Nat, k = (K : Int) := ⟨k.toNat, (Int.toNat_of_nonneg hk0).symm⟩
  have hcast : ((o.level.toNat : Nat) : Int) = o.level := Int.toNat_of_nonneg hl
  have hrL : runFp { o with level := ((o.level.toNat : Nat) : Int) } m g = .ok s := by
    rewrite [hcast]; exact hr
  obtain ⟨_, h2, h3, _⟩ := (runFp_ok_iff o m g s).1 hr
  refine ⟨_, C12.runFp_limited o m g K h3 h2, ?_⟩
  rewrite [C12.runFp_runTo o m g o.level.toNat s hrL]
  unfold fingerprintAt
  rw [shellsAt_runTo o m g (retained o m) K o.level.toNat ((Int.le_toNat hl).2 hkl) []]

/-- **all iterations = separate limited runs**: with `all_iters` and a level `≥ 0`, the keys are the
levels `0 … level`, and the fingerprint stored under key `k` for conformer `j` is exactly what
fingerprinting conformer `j` with level limit `k` returns (that separate run always succeeds) -/
theorem entry_alliters_eq_limited {o : Opts} {mid : Nat} {m : MolG} {geos : List Geo}
    {name : Option (List Char)} {first : Int} {d : LevelDict} (hl : 0 ≤ o.level)
    (h : entryRun o mid m geos name first true = .ok (some d))
    (p : Int × List NamedFp) (hp : p ∈ d) (j : Nat) (hj : j < p.2.length) :
    0 ≤ p.1 ∧ p.1 ≤ o.level ∧
    ∃ (hg : j < geos.length) (sk : FState),
      runFp { o with level := p.1 } m geos[j] = .ok sk ∧
      fingerprintAt { o with level := p.1 } sk (some p.1) none [] = .ok p.2[j].fp := by
  have hk := (C14.mem_levelKeys_all o.level hl p.1).1 (entry_mem h p hp).1
  obtain ⟨hg, e, s, hr, hf⟩ := entry_cell h p hp j hj
  obtain ⟨sk, hrk, hfk⟩ := limited_run hl hr hk.1 hk.2
  exact ⟨hk.1, hk.2, hg, sk, hrk, hfk.trans (e ▸ hf)⟩

/-- fetching a fingerprint of a finished run never fails for a legal folded length -/
theorem fingerprintAt_ok {o : Opts} {m : MolG} {g : Geo} {s : FState} (hr : runFp o m g = .ok s)
    (req : Option Int) (mask : List Nat) {n : Nat} (hb : 0 < o.bits) (hn : Gen.BITS = o.bits * 2 ^ n) :
    ∃ f, fingerprintAt o s req none mask = .ok f := by
  have hlt : ∀ i ∈ (shellsAt s req mask).map
      (fun x => (Gen.signedToUnsigned x.ident (Gen.BITS : Nat)).toNat), i < Gen.BITS := by
    intro i hi
    obtain ⟨x, hx, rfl⟩ := List.mem_map.1 hi
    obtain ⟨h0, h1⟩ := C02.index_range o m g s hr req mask x hx
    exact (Int.toNat_lt h0).2 h1
  obtain ⟨F, hF, hFb⟩ : ∃ F, fromIndices (if o.counts then Kind.count else Kind.bit) _ none Gen.BITS (req.getD (-1))
      = .ok F ∧ F.bits = Gen.BITS := by
    cases o.counts
    · exact ⟨_, mkBit_eq _ _ _ hlt, rfl⟩
    · exact ⟨_, mkCount_some_none_eq .count _ _ _ hlt, rfl⟩
  obtain ⟨f, hf⟩ := C07.fold_eq_of F o.bits 0 .sum hb ⟨n, hFb.trans hn⟩ (Or.inl rfl)
  exact ⟨f, (fingerprintAt_eq_ok o s req none mask f).2 ⟨F, hF, hf⟩⟩

/-- **the result is a dictionary** (not `{}`) whenever the fresh run of each of the first `N`
conformers succeeds and the folded length is legal -/
theorem entry_succeeds (o : Opts) (mid : Nat) (m : MolG) (geos : List Geo) (name : Option (List Char))
    (first : Int) (allIters : Bool) (hbad : ¬ (o.level = -1 ∧ o.removeDup = false))
    (n : Nat) (hb : 0 < o.bits) (hn : Gen.BITS = o.bits * 2 ^ n)
    (hruns : ∀ j (hj : j < geos.length), j < firstN first geos.length → ∃ s, runFp o m geos[j] = .ok s) :
    ∃ d, entryRun o mid m geos name first allIters = .ok (some d) := by
  refine ⟨_, entry_ok_iff.2 ⟨hbad, fun g hg k _ => ?_, rfl⟩⟩
  obtain ⟨j, hj, rfl⟩ := List.mem_take_iff_getElem.1 hg
  obtain ⟨hj1, hj2⟩ := Nat.lt_min.1 hj
  obtain ⟨s, hs⟩ := hruns j hj2 hj1
  obtain ⟨f, hf⟩ := fingerprintAt_ok hs (some k) [] hb hn
  exact (directOk_of hs hf).1

/-! ## non-vacuity: the four-atom chain of `Lemmas/FprinterEx.lean` with two conformers -/
section NonVacuity
open Ex

/-- a second geometry: nothing is within the level-1 shells -/
def g2 : Geo := { within := fun k _ _ => decide (2 ≤ k), stereo := fun _ _ => [] }

/-- the entry point on the chain with two conformers, all iterations kept: a dictionary with the four
level keys `0 … 3`, two fingerprints under each, named `mol_0` and `mol_1` -/
theorem ex_entry :
    ∃ d, entryRun Ex.o 7 Ex.m [Ex.g, g2] (some ['m', 'o', 'l']) (-1) true = .ok (some d) ∧
      d ≠ [] ∧ d.map (·.1) = [0, 1, 2, 3] ∧
      ∀ p ∈ d, p.2.length = 2 ∧
        ∀ j (hj : j < p.2.length), p.2[j].name = some (['m', 'o', 'l', '_'] ++ natDigits j) := by
  -- 22: `Gen.BITS = 2^32 = 1024 * 2^22`
  obtain ⟨d, hd⟩ := entry_succeeds Ex.o 7 Ex.m [Ex.g, g2] (some ['m', 'o', 'l']) (-1) true
    (by decide) 22 (by decide) (by decide) (fun j hj _ => ⟨_, Ex.run_eq 3 _⟩)
  have hN : firstN (-1) [Ex.g, g2].length = 2 := C14.firstN_all 2
  obtain ⟨hlen, hkeys, _⟩ := entry_count hd
  rewrite [hN] at hlen hkeys
  have hkeys' : d.map (·.1) = [0, 1, 2, 3] := by rewrite [hkeys (by decide)]; decide
  refine ⟨d, hd, ?_, hkeys', ?_⟩
  · intro he; rewrite [he] at hkeys'; cases hkeys'
  · intro p hp
    refine ⟨hlen p hp, ?_⟩
    intro j hj
    rewrite [entry_names hd p hp j hj]
    show some (confName ['m', 'o', 'l'] j) = _
    rewrite [C14.confName_nosuffix _ (by decide) j]
    rfl

end NonVacuity

/-! ## conformer storage order (C03, second half)

Re-storing the conformers of a molecule in another order changes where each fingerprint sits in the
lists (and hence its name index) but not the fingerprint of any conformer. -/

section Order
variable {o : Opts} {mid : Nat} {m : MolG} {geos geos' : List Geo} {name : Option (List Char)}
  {allIters : Bool} {d d' : LevelDict}

/-- the fingerprints of an entry's list are a function of the geometries alone, in storage order -/
theorem entry_fps {first : Int} (h : entryRun o mid m geos name first allIters = .ok (some d))
    (p : Int × List NamedFp) (hp : p ∈ d) :
    p.2.map (·.fp) = (geos.take (firstN first geos.length)).map (directFp o m p.1) := by
  have hfp : (·.fp) ∘ directCell o m name p.1 = directFp o m p.1 ∘ Prod.fst := rfl
  rw [(entry_mem h p hp).2, List.map_map, hfp, ← List.map_map, List.zipIdx_map_fst]

theorem entry_fps_all (h : entryRun o mid m geos name (-1) allIters = .ok (some d))
    (p : Int × List NamedFp) (hp : p ∈ d) : p.2.map (·.fp) = geos.map (directFp o m p.1) := by
  rw [entry_fps h p hp, C14.firstN_all, List.take_length]

/-- the entry point also succeeds on any re-stored conformer list (same number of conformers, each of
them one of the original ones), with the same keys -/
theorem entry_restored_exists (h : entryRun o mid m geos name (-1) allIters = .ok (some d))
    (hlen : geos'.length = geos.length) (hsub : ∀ g ∈ geos', g ∈ geos) :
    ∃ d', entryRun o mid m geos' name (-1) allIters = .ok (some d') ∧ d'.map (·.1) = d.map (·.1) := by
  obtain ⟨hbad, hF, _⟩ := entry_ok_iff.1 h
  rewrite [C14.firstN_all, List.take_length] at hF
  have h' : entryRun o mid m geos' name (-1) allIters = .ok (some _) :=
    entry_ok_iff.2 ⟨hbad, fun g hg => hF g (hsub g (List.mem_of_mem_take hg)), rfl⟩
  -- the keys depend on the number of conformers alone
  exact ⟨_, h', by rw [entry_keys h', entry_keys h, hlen]⟩

/-- as multisets: a permutation of the stored conformers permutes the fingerprints of every key -/
theorem entry_order_perm (hperm : geos'.Perm geos)
    (h : entryRun o mid m geos name (-1) allIters = .ok (some d))
    (h' : entryRun o mid m geos' name (-1) allIters = .ok (some d'))
    (key : Int) (l l' : List NamedFp) (hl : (key, l) ∈ d) (hl' : (key, l') ∈ d') :
    (l'.map (·.fp)).Perm (l.map (·.fp)) := by
  rewrite [entry_fps_all h (key, l) hl, entry_fps_all h' (key, l') hl']
  exact hperm.map _

/-- **conformer storage order** (index form): if `geos'` is `geos` re-stored so that position `j`
holds the old conformer `σ j`, the entry point still returns a dictionary, with the same keys, and
under every key the fingerprint at position `j` is the old fingerprint at position `σ j` -/
theorem entry_conformer_order (o : Opts) (mid : Nat) (m : MolG) (geos geos' : List Geo)
    (name : Option (List Char)) (allIters : Bool) (σ : Nat → Nat) {d : LevelDict}
    (hlen : geos'.length = geos.length)
    (hσ : ∀ j (hj : j < geos'.length), ∃ hs : σ j < geos.length, geos'[j] = geos[σ j])
    (h : entryRun o mid m geos name (-1) allIters = .ok (some d)) :
    ∃ d', entryRun o mid m geos' name (-1) allIters = .ok (some d') ∧ d'.map (·.1) = d.map (·.1) ∧
      ∀ key l l', (key, l) ∈ d → (key, l') ∈ d' →
        ∀ j (hj : j < l'.length), ∃ hs : σ j < l.length, l'[j].fp = l[σ j].fp := by
  have hsub : ∀ g ∈ geos', g ∈ geos := by
    intro g hg
    obtain ⟨j, hj, rfl⟩ := List.getElem_of_mem hg
    obtain ⟨hs, he⟩ := hσ j hj
    rewrite [he]; exact List.getElem_mem hs
  obtain ⟨d', h', hkeys⟩ := entry_restored_exists h hlen hsub
  refine ⟨d', h', hkeys, fun key l l' hl hl' j hj => ?_⟩
  have hl_len : l.length = geos.length := by rw [entry_len h _ hl, C14.firstN_all]
  obtain ⟨hg', e', _⟩ := entry_cell h' (key, l') hl' j hj
  obtain ⟨hs, hg⟩ := hσ j hg'
  obtain ⟨_, e, _⟩ := entry_cell h (key, l) hl (σ j) (hl_len ▸ hs)
  exact ⟨hl_len ▸ hs, by rewrite [e', e, hg]; rfl⟩

/-- **conformer storage order** (multiset form): for a permutation of the stored conformers the entry
point still returns a dictionary, with the same keys, and under every key the list of fingerprints is
a permutation of the old one -/
theorem entry_conformer_perm (o : Opts) (mid : Nat) (m : MolG) (geos geos' : List Geo)
    (name : Option (List Char)) (allIters : Bool) {d : LevelDict} (hperm : geos'.Perm geos)
    (h : entryRun o mid m geos name (-1) allIters = .ok (some d)) :
    ∃ d', entryRun o mid m geos' name (-1) allIters = .ok (some d') ∧ d'.map (·.1) = d.map (·.1) ∧
      ∀ key l l', (key, l) ∈ d → (key, l') ∈ d' → (l'.map (·.fp)).Perm (l.map (·.fp)) := by
  obtain ⟨d', h', hkeys⟩ := entry_restored_exists h hperm.length_eq (fun g hg => hperm.subset hg)
  exact ⟨d', h', hkeys, fun key l l' hl hl' => entry_order_perm hperm h h' key l l' hl hl'⟩

end Order

/-- both storage orders give a (non-empty) dictionary with the same keys; under every key the two
fingerprints are swapped -/
theorem ex_entry_swapped :
    ∃ d d', entryRun Ex.o 7 Ex.m [Ex.g, g2] (some ['m', 'o', 'l']) (-1) true = .ok (some d) ∧
      entryRun Ex.o 7 Ex.m [g2, Ex.g] (some ['m', 'o', 'l']) (-1) true = .ok (some d') ∧
      d ≠ [] ∧ d'.map (·.1) = d.map (·.1) ∧
      ∀ key l l', (key, l) ∈ d → (key, l') ∈ d' →
        (∀ j (hj : j < l'.length), ∃ hs : 1 - j < l.length, l'[j].fp = l[1 - j].fp) ∧
        (l'.map (·.fp)).Perm (l.map (·.fp)) := by
  obtain ⟨d, hd, hne, _, _⟩ := ex_entry
  obtain ⟨d', hd', hkeys, hfp⟩ :=
    entry_conformer_order Ex.o 7 Ex.m [Ex.g, g2] [g2, Ex.g] (some ['m', 'o', 'l']) true (fun j => 1 - j) rfl
      (fun j hj => by
        rcases Nat.le_one_iff_eq_zero_or_eq_one.1 (Nat.le_of_lt_succ hj) with rfl | rfl
        · exact ⟨Nat.lt_succ_self 1, rfl⟩
        · exact ⟨Nat.zero_lt_succ 1, rfl⟩) hd
  refine ⟨d, d', hd, hd', hne, hkeys, ?_⟩
  intro key l l' hl hl'
  exact ⟨hfp key l l' hl hl',
    entry_order_perm (List.Perm.swap Ex.g g2 []) hd hd' key l l' hl hl'⟩

end E3fpVerif.Props.C14Entry
