import E3fpVerif.Model.Savetxt
/-!
# C08 — the run-length construction of the text export writes exactly the row's bit string

For every length and every strictly ascending list of positions below it, `runLength bits idx` (the expression `savetxt`
evaluates) is the string of `bits` characters with `1` exactly at the listed positions.
-/
namespace E3fpVerif.Props.C08Runs
open E3fpVerif

/-- the bit string of the positions `idx` on the window `[s, s + n)` -/
def window (s n : Nat) (idx : List Nat) : List Char :=
  (List.range' s n).map (fun j => if j ∈ idx then '1' else '0')

/-- up to its first listed position `s + k` the window is a run of zeros; then comes a one -/
theorem window_cons (s k m : Nat) (rest : List Nat) (hgt : ∀ j ∈ rest, s + k < j) :
    window s (k + m + 1) ((s + k) :: rest) = List.replicate k '0' ++ '1' :: window (s + k + 1) m rest := by
  unfold window
  rewrite [Nat.add_assoc, ← List.range'_append_1, List.range'_succ, List.map_append, List.map_cons,
         if_pos List.mem_cons_self]
  -- the two runs one by one (`congr 1` tries to unify the whole sides first, which is slow)
  refine congr (congrArg _ ?_) (congrArg _ ?_)
  · refine List.eq_replicate_iff.2 ⟨by rw [List.length_map, List.length_range'],
      List.forall_mem_map.2 fun j hj => if_neg fun hm => ?_⟩
    have hj' := (List.mem_range'_1.1 hj).2
    rcases List.mem_cons.1 hm with e | e
    · exact Nat.ne_of_lt hj' e
    · exact Nat.lt_asymm hj' (hgt j e)
  · apply List.map_congr_left
    intro j hj
    simp only [List.mem_cons, Nat.ne_of_gt (List.mem_range'_1.1 hj).1, false_or]

/-- the zeros written between the previous set position `s - 1` (or -1) and the next one, `s + k` -/
theorem zeros_gap (s k : Nat) : (((s + k : Nat) : Int) - ((s : Int) - 1) - 1).toNat = k := by
  rw [Int.sub_sub, Int.sub_add_cancel, Int.toNat_sub, Nat.add_sub_cancel_left]

/-- the general step: after the previous set position `s - 1` (or -1), the remaining positions produce
the window `[s, s + n)`.  Start and length are kept apart (the end `s + n` is the sentinel), so that the
step needs no subtraction: the first position is `s + k`, and `n = k + m + 1`. -/
theorem runs_from (idx : List Nat) (s n : Nat)
    (hasc : idx.Pairwise (· < ·)) (hge : ∀ i ∈ idx, s ≤ i) (hlt : ∀ i ∈ idx, i < s + n) :
    joinWith ['1'] ((diffs (((s : Int) - 1) :: (idx.map (fun (i : Nat) => (i : Int)) ++ [((s + n : Nat) : Int)]))).map
      (fun d => List.replicate (d - 1).toNat '0')) = window s n idx := by
  induction idx generalizing s n with
  | nil =>
    simp only [List.map_nil, List.nil_append, diffs, List.map_cons, joinWith, window, zeros_gap, List.not_mem_nil,
      if_false, List.map_const', List.length_range']
  | cons i rest ih =>
    obtain ⟨k, rfl⟩ := Nat.exists_eq_add_of_le (hge i List.mem_cons_self)
    obtain ⟨m, rfl⟩ := Nat.exists_eq_add_of_lt (Nat.lt_of_add_lt_add_left (hlt _ List.mem_cons_self))
    obtain ⟨hgt, hasc'⟩ := List.pairwise_cons.1 hasc
    have hb : s + k + 1 + m = s + (k + m + 1) := by rw [Nat.add_right_comm, Nat.add_assoc s, Nat.add_assoc s]
    have ih' := ih (s + k + 1) m hasc' hgt fun j hj => hb ▸ hlt j (List.mem_cons_of_mem _ hj)
    rewrite [Int.natCast_add (s + k) 1, Int.natCast_one, Int.add_sub_cancel, hb] at ih'
    rewrite [window_cons s k m rest hgt, ← ih']
    -- the list after `s + k` is not empty (it ends with the sentinel), so `joinWith` writes the separator
    obtain ⟨x, xs, hx⟩ : ∃ x xs, rest.map (fun (i : Nat) => (i : Int)) ++ [((s + (k + m + 1) : Nat) : Int)] = x :: xs := by
      cases rest <;> exact ⟨_, _, rfl⟩
    simp only [List.map_cons, List.cons_append, hx, diffs, joinWith, zeros_gap, List.append_assoc, List.cons_append, List.nil_append]

/-- **the run-length expression is the bit string of the row** -/
theorem runLength_eq (bits : Nat) (idx : List Nat) (hasc : idx.Pairwise (· < ·)) (hlt : ∀ i ∈ idx, i < bits) :
    runLength bits idx = (List.range bits).map (fun j => if j ∈ idx then '1' else '0') := by
  have h := runs_from idx 0 bits hasc (fun i _ => Nat.zero_le i) (by rwa [Nat.zero_add])
  rewrite [Nat.zero_add] at h
  rewrite [List.range_eq_range']
  exact h

/-- its length is the database's length, whichever of its positions the row holds -/
theorem runLength_length (bits : Nat) (idx : List Nat) (hasc : idx.Pairwise (· < ·)) (hlt : ∀ i ∈ idx, i < bits) :
    (runLength bits idx).length = bits := by
  rw [runLength_eq bits idx hasc hlt, List.length_map, List.length_range]

/-- and it is the line `savetxt`'s model writes for a row storing exactly these columns -/
theorem runLength_eq_bitstring (bits : Nat) (r : Row) (hasc : (r.map Prod.fst).Pairwise (· < ·)) (hlt : ∀ p ∈ r, p.1 < bits) :
    runLength bits (r.map Prod.fst) = (bitstringOfRow bits r).map (fun b => if b then '1' else '0') := by
  rewrite [runLength_eq bits _ hasc (List.forall_mem_map.2 hlt), bitstringOfRow, List.map_map]
  apply List.map_congr_left
  intro j _
  simp only [Function.comp, List.any_eq_true, beq_iff_eq, List.mem_map]

-- a string literal is `String.ofList` of its characters: `toList` is read off it, not evaluated through the bytes
example : runLength 8 [1, 2, 6] = "01100010".toList := by rewrite [String.toList_ofList]; decide +kernel
example : runLength 4 [] = "0000".toList := by rewrite [String.toList_ofList]; decide +kernel
example : runLength 3 [0, 1, 2] = "111".toList := by rewrite [String.toList_ofList]; decide +kernel

end E3fpVerif.Props.C08Runs
