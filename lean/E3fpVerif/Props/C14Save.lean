import E3fpVerif.Model.SaveRun
/-!
# C14 / C15 — saved fingerprint files reload to the fingerprints that were returned

For every pre-existing state of the output directories, every level, naming and option set: a call that
returns fingerprints leaves exactly what it returned in the molecule's files (also when only some of them
existed before), a skipped call touches nothing, and no call touches another molecule's files.
-/
namespace E3fpVerif.Props.C14Save
open E3fpVerif

variable {κ : Type}

theorem ofsGet_put (fs : OFS κ) (p q : OutPath) (c : κ) :
    ofsGet (ofsPut fs p c) q = if p = q then some c else ofsGet fs q := by
  unfold ofsGet ofsPut
  rewrite [List.find?_cons, List.find?_filter]
  by_cases h : p = q
  · rewrite [if_pos h, decide_eq_true h]; rfl
  · -- among entries at `q`, the filter `≠ p` removes nothing
    rewrite [if_neg h, decide_eq_false h]
    refine congrArg (Option.map Prod.snd) (congrArg (List.find? · fs) (funext fun e => decide_eq_decide.2 ?_))
    exact ⟨fun he => of_decide_eq_true he.2,
      fun he => ⟨decide_eq_true fun e' => h (e'.symm.trans he), decide_eq_true he⟩⟩

/-- the file system after a successful call: the molecule's files hold the fresh results, every other path is untouched -/
theorem ofsGet_writeAll (fs : OFS κ) (name : String) (keys : List Int) (f : Int → κ) (q : OutPath) :
    ofsGet (writeAll fs name (keys.map (fun k => (k, f k)))) q =
      if q.2 = name ∧ q.1 ∈ keys then some (f q.1) else ofsGet fs q := by
  induction keys generalizing fs with
  | nil => exact (if_neg fun h => List.not_mem_nil h.2).symm
  | cons k ks ih =>
    rewrite [List.map_cons, writeAll, ih, ofsGet_put]
    by_cases h : (k, name) = q
    · subst h
      rw [if_pos rfl, ite_self, if_pos ⟨rfl, List.mem_cons_self⟩]
    · -- another path: `k` at the head of the keys makes no difference
      have hk : q.2 = name → (q.1 ∈ k :: ks ↔ q.1 ∈ ks) := fun hm =>
        List.mem_cons.trans (or_iff_right fun e => h (Prod.ext e.symm hm.symm))
      rewrite [if_neg h]
      simp only [and_congr_right hk]

theorem saveMol_skip (fs : OFS κ) (name : String) (level : Int) (allIters overwrite : Bool) (fresh : Option (Int → κ))
    (h : skipSave fs name level allIters overwrite = true) : saveMol fs name level allIters overwrite fresh = (fs, []) := by
  unfold saveMol; exact if_pos h

/-- a failed fingerprinting writes nothing -/
theorem save_failure (fs : OFS κ) (name : String) (level : Int) (allIters overwrite : Bool) :
    saveMol fs name level allIters overwrite (none : Option (Int → κ)) = (fs, []) := by
  unfold saveMol; exact ite_self _

theorem saveMol_run (fs : OFS κ) (name : String) (level : Int) (allIters overwrite : Bool) (f : Int → κ)
    (h : skipSave fs name level allIters overwrite = false) :
    saveMol fs name level allIters overwrite (some f) =
      (writeAll fs name (resultDict level allIters f), resultDict level allIters f) := by
  unfold saveMol; exact if_neg (ne_true_of_eq_false h)

theorem saveMol_run_files (fs : OFS κ) (name : String) (level : Int) (allIters overwrite : Bool) (f : Int → κ)
    (hs : skipSave fs name level allIters overwrite = false) :
    ∀ k ∈ levelKeys level allIters, ofsGet (saveMol fs name level allIters overwrite (some f)).1 (k, name) = some (f k) := by
  intro k hk
  rewrite [saveMol_run _ _ _ _ _ f hs]
  exact (ofsGet_writeAll fs name _ f (k, name)).trans (if_pos ⟨rfl, hk⟩)

theorem resultDict_keys (level : Int) (allIters : Bool) (f : Int → κ) :
    (resultDict level allIters f).map Prod.fst = levelKeys level allIters := by
  simp [resultDict, List.map_map, Function.comp_def]

/-- the two outcomes of a call, on which the theorems below split -/
theorem saveMol_cases (fs : OFS κ) (name : String) (level : Int) (allIters overwrite : Bool) (fresh : Option (Int → κ)) :
    saveMol fs name level allIters overwrite fresh = (fs, []) ∨
    ∃ f, fresh = some f ∧ skipSave fs name level allIters overwrite = false ∧
      saveMol fs name level allIters overwrite fresh = (writeAll fs name (resultDict level allIters f), resultDict level allIters f) := by
  cases hs : skipSave fs name level allIters overwrite with
  | true => left; exact saveMol_skip _ _ _ _ _ _ hs
  | false =>
    cases fresh with
    | none => left; exact save_failure _ _ _ _ _
    | some f => right; exact ⟨f, rfl, rfl, saveMol_run _ _ _ _ _ f hs⟩

/-- a call that returns fingerprints has written, under each of its level keys, exactly the list it returned -/
theorem save_consistent (fs : OFS κ) (name : String) (level : Int) (allIters overwrite : Bool) (fresh : Option (Int → κ))
    (k : Int) (c : κ) (hm : (k, c) ∈ (saveMol fs name level allIters overwrite fresh).2) :
    ofsGet (saveMol fs name level allIters overwrite fresh).1 (k, name) = some c := by
  rcases saveMol_cases fs name level allIters overwrite fresh with h | ⟨f, rfl, hs, h⟩
  · rewrite [h] at hm; cases hm
  · rewrite [h] at hm
    obtain ⟨k', hk, e⟩ := List.mem_map.mp hm
    cases e
    exact saveMol_run_files fs name level allIters overwrite f hs k hk

/-- the returned dictionary has exactly the level keys, in order (or is empty) -/
theorem save_keys (fs : OFS κ) (name : String) (level : Int) (allIters overwrite : Bool) (fresh : Option (Int → κ)) :
    (saveMol fs name level allIters overwrite fresh).2 = [] ∨
    ((saveMol fs name level allIters overwrite fresh).2.map Prod.fst = levelKeys level allIters) := by
  rcases saveMol_cases fs name level allIters overwrite fresh with h | ⟨f, _, _, h⟩
  · left; rw [h]
  · right; rewrite [h]; exact resultDict_keys level allIters f

/-- all files present and overwrite off: the call is a skip - nothing returned, nothing touched -/
theorem save_skip (fs : OFS κ) (name : String) (level : Int) (allIters : Bool) (fresh : Option (Int → κ))
    (h : ∀ p ∈ outFiles name level allIters, (ofsGet fs p).isSome) :
    saveMol fs name level allIters false fresh = (fs, []) := by
  apply saveMol_skip
  simp only [skipSave, Bool.not_false, Bool.and_true]
  exact List.all_eq_true.mpr h

/-- files of other molecules, and files outside the molecule's level directories, are never touched -/
theorem save_other (fs : OFS κ) (name : String) (level : Int) (allIters overwrite : Bool) (fresh : Option (Int → κ))
    (q : OutPath) (hq : q ∉ outFiles name level allIters) :
    ofsGet (saveMol fs name level allIters overwrite fresh).1 q = ofsGet fs q := by
  rcases saveMol_cases fs name level allIters overwrite fresh with h | ⟨f, _, _, h⟩
  · rw [h]
  · rewrite [h]
    refine (ofsGet_writeAll fs name _ f q).trans (if_neg fun h => hq ?_)
    exact List.mem_map.mpr ⟨q.1, h.2, by rw [← h.1]⟩

/-- one of the files is missing (some of the others may exist), overwrite off, fingerprinting succeeds: *every* file of
the molecule holds the fresh list afterwards (a stale or truncated file of an earlier, shorter or killed run does not survive) -/
theorem save_partial_rewrites_all (fs : OFS κ) (name : String) (level : Int) (allIters : Bool) (f : Int → κ)
    (hmiss : ∃ p ∈ outFiles name level allIters, ofsGet fs p = none) :
    ∀ k ∈ levelKeys level allIters, ofsGet (saveMol fs name level allIters false (some f)).1 (k, name) = some (f k) := by
  obtain ⟨p, hp, hnone⟩ := hmiss
  apply saveMol_run_files
  simp only [skipSave, Bool.not_false, Bool.and_true]
  apply Bool.eq_false_iff.mpr
  intro hall
  have := List.all_eq_true.mp hall p hp
  simp [hnone] at this

/-- overwrite on: the files are regenerated whatever was there -/
theorem save_overwrite (fs : OFS κ) (name : String) (level : Int) (allIters : Bool) (f : Int → κ) :
    ∀ k ∈ levelKeys level allIters, ofsGet (saveMol fs name level allIters true (some f)).1 (k, name) = some (f k) :=
  saveMol_run_files fs name level allIters true f (Bool.and_false _)

/-- after a successful call every file of the molecule exists, so the same call again (overwrite off) is a skip that
leaves every file byte-for-byte untouched -/
theorem save_twice (fs : OFS κ) (name : String) (level : Int) (allIters overwrite : Bool) (f g : Int → κ)
    (h1 : (saveMol fs name level allIters overwrite (some f)).2 ≠ []) :
    saveMol (saveMol fs name level allIters overwrite (some f)).1 name level allIters false (some g) =
      ((saveMol fs name level allIters overwrite (some f)).1, []) := by
  apply save_skip
  intro p hp
  obtain ⟨k, hk, rfl⟩ := List.mem_map.mp hp
  rcases saveMol_cases fs name level allIters overwrite (some f) with h | ⟨_, _, hs, _⟩
  · rewrite [h] at h1; exact absurd rfl h1
  · rewrite [saveMol_run_files fs name level allIters overwrite f hs k hk]; rfl

/-- non-vacuity: level 2, all iterations, the level-0 file left by an earlier run: all three files are rewritten -/
example : (saveMol [(((0 : Int), "m"), "stale")] "m" 2 true false (some (fun k => s!"fresh{k}"))).1.map (·.1.1) = [2, 1, 0]
    ∧ ofsGet (saveMol [(((0 : Int), "m"), "stale")] "m" 2 true false (some (fun k => s!"fresh{k}"))).1 (0, "m") = some "fresh0" := by
  decide +kernel

end E3fpVerif.Props.C14Save
