import E3fpVerif.Model.Db
import E3fpVerif.Model.DbHist
import E3fpVerif.Lemmas.DbEq
import E3fpVerif.Lemmas.DbRows
import E3fpVerif.Props.C05
import E3fpVerif.Props.C08
/-!
# C09 (databases) — `db == other` is equality of content

`Db.eq` models `FingerprintDatabase.__eq__`: equal `fp_type`, `level`, `bits`, `fp_num`, equal
name → rows dictionaries, and `(self.array - other.array).nnz == 0`.

For databases satisfying the representation invariant `Db.Inv` (every database built by the public
operations, `Props/C05.lean`), `eq_iff` characterises it by **content**: kind, level, length, the
names *in row order*, and the canonical content of every row (columns sorted, duplicate columns
summed, explicit zeros dropped).  What is **not** compared: the database's own `name` and the
property columns (`eq_ignores_name_and_props`), and the storage order of a row's cells
(`eq_of_row_perm`).
-/
namespace E3fpVerif.Props.C09Db
open E3fpVerif

/-- the definition, conjunct by conjunct (the two dictionary inclusions as `subMap`) -/
theorem eq_iff_raw (a b : Db) :
    a.eq b = true ↔ a.fpType = b.fpType ∧ a.level = b.level ∧
      (a.array.map fun _ => a.bits) = (b.array.map fun _ => b.bits) ∧ a.fpNum = b.fpNum ∧
      (subMap a.namesMap b.namesMap = true ∧ subMap b.namesMap a.namesMap = true) ∧
      (a.array.map (·.map rowContent)) = (b.array.map (·.map rowContent)) := by
  unfold Db.eq subMap
  simp only [Bool.and_eq_true, beq_iff_eq, and_assoc]
  refine and_congr_right fun _ => and_congr_right fun _ => and_congr_right fun _ => and_congr_right fun _ =>
    and_congr_right fun _ => and_congr_right fun _ => ?_
  cases a.array <;> cases b.array <;> simp

theorem fpNum_eq_of_content (a b : Db)
    (h : (a.array.map (·.map rowContent)) = (b.array.map (·.map rowContent))) : a.fpNum = b.fpNum := by
  have e : ∀ o : Option (List Row), ((o.map (·.map rowContent)).getD []).length = (o.getD []).length :=
    fun o => o.rec rfl fun _ => List.length_map _
  rw [fpNum_eq, fpNum_eq, ← e a.array, ← e b.array, h]

/-- **`db == other` is equality of content.**  Two databases satisfying the invariant are equal
exactly when they have the same kind, the same level, the same length (`bits`; a database that never
received rows has none), the same fingerprint names *in row order*, and the same canonical content
(sorted columns, duplicates summed, no explicit zeros) in every row.  The row count is implied.
The database's own `name` and the property columns are not compared (`eq_ignores_name_and_props`). -/
theorem eq_iff (a b : Db) (ha : a.Inv) (hb : b.Inv) :
    a.eq b = true ↔ a.fpType = b.fpType ∧ a.level = b.level ∧
      (a.array.map fun _ => a.bits) = (b.array.map fun _ => b.bits) ∧
      a.fpNames = b.fpNames ∧ (a.array.map (·.map rowContent)) = (b.array.map (·.map rowContent)) := by
  rewrite [eq_iff_raw, ha.canonical, hb.canonical, subMap_canonical_iff]
  constructor
  · rintro ⟨h1, h2, h3, _, h5, h6⟩; exact ⟨h1, h2, h3, h5, h6⟩
  · rintro ⟨h1, h2, h3, h5, h6⟩; exact ⟨h1, h2, h3, fpNum_eq_of_content a b h6, h5, h6⟩

/-- a database that never received rows is equal only to another such database, of the same kind
and level (its `bits` is not looked at) -/
theorem eq_iff_none (a b : Db) (ha : a.Inv) (hb : b.Inv) (hx : a.array = none) :
    a.eq b = true ↔ a.fpType = b.fpType ∧ a.level = b.level ∧ b.array = none := by
  rewrite [eq_iff a b ha hb, hx]
  cases hy : b.array with
  | none => simp [((C05.inv_none hx).1 ha).1, ((C05.inv_none hy).1 hb).1]
  | some y => simp

/-- **neither the database's own name nor its property columns take part in the comparison**
(no hypothesis: `Db.eq` does not read these fields) -/
theorem eq_ignores_name_and_props (a b : Db) (n n' : Option String) (ps ps' : List (String × List PVal)) :
    ({ a with name := n, props := ps } : Db).eq { b with name := n', props := ps' } = a.eq b := rfl

theorem absRows_names (db : Db) (h : db.Inv) : db.absRows.map (·.name) = db.fpNames := by
  apply List.ext_getElem
  · rw [List.length_map, absRows_length, h.names_length]
  · intro i h1 h2
    simp only [Db.absRows, List.getElem_map, List.getElem_range, List.getElem?_eq_getElem h2, Option.getD_some]

theorem absRows_cells (db : Db) : db.absRows.map (·.cells) = db.array.getD [] := by
  apply List.ext_getElem
  · rw [List.length_map, absRows_length, fpNum_eq]
  · intro i h1 h2
    simp only [Db.absRows, List.getElem_map, List.getElem_range, List.getElem?_eq_getElem h2, Option.getD_some]

/-- **in terms of the list-of-rows specification** (`Db.spec`, the abstraction the history refinement of
`Props/C05Hist.lean` is stated with): two databases are equal exactly when their specifications have
the same kind, level and length and, row by row, the same name and the same canonical cell content;
the specification's `name`, `keys` and per-row `props` are not compared -/
theorem eq_iff_spec (a b : Db) (ha : a.Inv) (hb : b.Inv) :
    a.eq b = true ↔ a.spec.kind = b.spec.kind ∧ a.spec.level = b.spec.level ∧ a.spec.bits = b.spec.bits ∧
      a.spec.rows.map (fun r => (r.name, rowContent r.cells)) =
        b.spec.rows.map (fun r => (r.name, rowContent r.cells)) := by
  rewrite [eq_iff a b ha hb]
  simp only [Db.spec]
  have hc : ∀ d : Db, d.absRows.map (fun r => rowContent r.cells) = (d.array.getD []).map rowContent := fun d => by
    rewrite [← absRows_cells d, List.map_map]; rfl
  rewrite [map_pair_eq_iff (fun r : SRow => r.name) (fun r => rowContent r.cells) a.absRows b.absRows,
         absRows_names a ha, absRows_names b hb, hc, hc]
  refine and_congr_right fun _ => and_congr_right fun _ => and_congr_right fun hbits => and_congr_right fun _ => ?_
  cases hx : a.array <;> cases hy : b.array <;> rewrite [hx, hy] at hbits
  · exact iff_of_true rfl rfl
  · cases hbits
  · cases hbits
  · exact Option.some_inj

theorem eq_refl (a : Db) (ha : a.Inv) : a.eq a = true :=
  (eq_iff a a ha ha).2 ⟨rfl, rfl, rfl, rfl, rfl⟩

/-- what reflexivity really needs: a name index without duplicate keys -/
theorem eq_refl_of_nodup (a : Db) (h : (a.namesMap.map Prod.fst).Nodup) : a.eq a = true :=
  (eq_iff_raw a a).2 ⟨rfl, rfl, rfl, rfl, ⟨subMap_self _ h, subMap_self _ h⟩, rfl⟩

/-- **reflexivity is false without the invariant**: a name index holding a key twice (not a
Python dictionary, but a value of the model's type) is not equal to itself -/
theorem eq_refl_needs_inv :
    let a : Db := { Db.new .bit 0 none with namesMap := [(none, [0]), (none, [1])] }
    a.eq a = false := by decide +kernel

theorem eq_symm (a b : Db) : a.eq b = b.eq a := by
  rewrite [Bool.eq_iff_iff, eq_iff_raw, eq_iff_raw]
  constructor <;>
  · rintro ⟨h1, h2, h3, h4, ⟨h5, h6⟩, h7⟩
    exact ⟨h1.symm, h2.symm, h3.symm, h4.symm, ⟨h6, h5⟩, h7.symm⟩

theorem eq_trans (a b c : Db) (ha : a.Inv) (hb : b.Inv) (hc : c.Inv) (hab : a.eq b = true) (hbc : b.eq c = true) :
    a.eq c = true := by
  obtain ⟨h1, h2, h3, h4, h5⟩ := (eq_iff a b ha hb).1 hab
  obtain ⟨g1, g2, g3, g4, g5⟩ := (eq_iff b c hb hc).1 hbc
  exact (eq_iff a c ha hc).2 ⟨h1.trans g1, h2.trans g2, h3.trans g3, h4.trans g4, h5.trans g5⟩

/-- **unpickling yields a database equal to the original** -/
theorem pickle_eq (a : Db) (ha : a.Inv) : a.eq a.pickleRoundTrip = true := by
  rewrite [(C08.pickle_inv a ha).1]; exact eq_refl a ha

/-- **`load(savez(db))` yields a database equal to the original** (it *is* the original) -/
theorem savezLoad_eq (a d : Db) (ha : a.Inv) (h : a.savezLoad = .ok d)
    (hst : ∀ r ∈ a.array.getD [], ∀ p ∈ r, castVal a.fpType p.2 = p.2) : a.eq d = true := by
  obtain ⟨x, hx, _, _⟩ := C08.savezLoad_ok a d h
  rewrite [hx] at hst
  cases (C08.savezLoad_id a x ha hx hst).symm.trans h
  exact eq_refl a ha

/-- **a copy is equal to the original**: `copy` is `as_type` with the database's own kind, which runs
the very construction `load` runs (the two sides are the same term) -/
theorem copy_eq (a d : Db) (ha : a.Inv) (h : a.asType a.fpType = .ok d)
    (hst : ∀ r ∈ a.array.getD [], ∀ p ∈ r, castVal a.fpType p.2 = p.2) : a.eq d = true :=
  savezLoad_eq a d ha h hst

/-- Without stability the loaded database (or the copy) is the original *after casting*: it satisfies the
invariant, has the same kind, level, length and names, and its rows are the cast rows (by `eq_iff` it is then
equal to every database with these fields and the content of the cast rows). -/
theorem savezLoad_content (a d : Db) (ha : a.Inv) (h : a.savezLoad = .ok d) :
    d.Inv ∧ d.fpType = a.fpType ∧ d.level = a.level ∧ d.bits = a.bits ∧ d.fpNames = a.fpNames ∧
      d.array = a.array.map (·.map (fun r => r.map (fun p => (p.1, castVal a.fpType p.2)))) := by
  refine ⟨C08.savezLoad_inv a d ha h, ?_⟩
  obtain ⟨x, hx, _, rfl⟩ := C08.savezLoad_ok a d h
  simp [hx]

private def fA : Fp := ⟨.bit, 8, 0, [1], []⟩
private def dbTwo : Db := { (Db.new .bit 0 none).addOk [⟨fA, some "a", []⟩] with array := some [[(1, 2)]] }

/-- **the stability hypothesis is needed**: a bit database holding a stored 2 (`from_array` accepts
it, `add` never produces it) satisfies the invariant, is saved and loaded (or copied) without error,
and is *not* equal to what comes back (the 2 has become a 1) -/
theorem savezLoad_eq_needs_stable :
    dbTwo.Inv ∧ (∃ d, dbTwo.savezLoad = .ok d ∧ dbTwo.asType dbTwo.fpType = .ok d ∧ dbTwo.eq d = false) := by
  have hi : dbTwo.Inv :=
    (C05.inv_some (db := dbTwo) rfl).2 (by decide +kernel)
  have h := C08.savezLoad_eq_cast dbTwo _ rfl hi.canonical hi.keys_nodup hi.cols_names
  exact ⟨hi, _, h, h, by decide +kernel⟩

/-- **equality does not see the storage order of a CSR row**: `b` is `a` with the cells of each
row permuted -/
theorem eq_of_row_perm (a : Db) (ha : a.Inv) (x y : List Row) (hx : a.array = some x)
    (hp : List.Forall₂ List.Perm x y) : a.eq { a with array := some y } = true := by
  have hlen : x.length = y.length := by
    simpa only [List.length_map] using congrArg List.length (map_rowContent_perm hp)
  obtain ⟨h1, h2, h3, h4⟩ := (C05.inv_some hx).1 ha
  have hb : ({ a with array := some y } : Db).Inv :=
    (C05.inv_some (db := { a with array := some y }) rfl).2
      ⟨by rewrite [← hlen]; exact h1, fun c hc => by rewrite [← hlen]; exact h2 c hc, h3, h4⟩
  refine (eq_iff a _ ha hb).2 ⟨rfl, rfl, ?_, rfl, ?_⟩
  · rewrite [hx]; rfl
  · rewrite [hx]; exact congrArg some (map_rowContent_perm hp)

/-- the content of a row is what `eq` compares: explicit zeros and split cells are not seen either -/
example : rowContent [(5, 1), (1, 2), (5, 2), (3, 0)] = [(1, 2), (5, 3)] ∧
    rowContent [(1, 2), (5, 3)] = [(1, 2), (5, 3)] := by decide +kernel

section Examples

private def f1 : Fp := ⟨.count, 8, 0, [1, 2], [(1, 2), (2, 1)]⟩
private def f2 : Fp := ⟨.count, 8, 0, [3], [(3, 4)]⟩
private def f2' : Fp := ⟨.count, 8, 0, [3], [(3, 5)]⟩
private def e0 : Db := Db.new .count 0 none

/-- one addition of two fingerprints -/
private def dbOne : Db := (e0.add [⟨f1, some "a", [("w", .int 1)]⟩, ⟨f2, some "b", [("w", .int 2)]⟩]).1
/-- two additions of one fingerprint each, other database name, other property values -/
private def dbSplit : Db :=
  (((Db.new .count 0 (some "other")).add [⟨f1, some "a", [("w", .int 7)]⟩]).1.add [⟨f2, some "b", [("w", .int 8)]⟩]).1
/-- a single count differs -/
private def dbDiff : Db := (e0.add [⟨f1, some "a", [("w", .int 1)]⟩, ⟨f2', some "b", [("w", .int 2)]⟩]).1
/-- the names are exchanged -/
private def dbSwap : Db := (e0.add [⟨f1, some "b", [("w", .int 1)]⟩, ⟨f2, some "a", [("w", .int 2)]⟩]).1

private theorem dbOne_inv : dbOne.Inv := C05.inv_add_always _ _ (C05.inv_new _ _ _)
private theorem dbSplit_inv : dbSplit.Inv :=
  C05.inv_add_always _ _ (C05.inv_add_always _ _ (C05.inv_new _ _ _))

/-- two databases built by different histories (and carrying different names and property values)
are equal; a database differing in a single count, or in the order of the names, is not -/
theorem examples_eq :
    dbOne.fpNum = 2 ∧ dbSplit.fpNum = 2 ∧ dbOne ≠ dbSplit ∧
    dbOne.eq dbSplit = true ∧ dbSplit.eq dbOne = true ∧
    dbOne.eq dbDiff = false ∧ dbOne.eq dbSwap = false := by
  decide +kernel

/-- `eq_iff` applies to the pair: the hypotheses are satisfiable and the right-hand side holds -/
example : dbOne.fpNames = dbSplit.fpNames ∧
    (dbOne.array.map (·.map rowContent)) = (dbSplit.array.map (·.map rowContent)) := by
  obtain ⟨_, _, _, h, _⟩ := examples_eq
  obtain ⟨_, _, _, hn, hc⟩ := (eq_iff dbOne dbSplit dbOne_inv dbSplit_inv).1 h
  exact ⟨hn, hc⟩

/-- `eq_of_row_perm`, `pickle_eq`, `savezLoad_eq`, `copy_eq`: the hypotheses are satisfiable -/
example : dbOne.eq { dbOne with array := some [[(2, 1), (1, 2)], [(3, 4)]] } = true ∧
    dbOne.eq dbOne.pickleRoundTrip = true ∧
    (∃ d, dbOne.savezLoad = .ok d ∧ dbOne.asType dbOne.fpType = .ok d ∧ dbOne.eq d = true) := by
  refine ⟨eq_of_row_perm dbOne dbOne_inv [[(1, 2), (2, 1)], [(3, 4)]] _ (by decide +kernel) ?_, pickle_eq dbOne dbOne_inv, ?_⟩
  · exact .cons (List.Perm.swap _ _ _) (.cons (List.Perm.refl _) .nil)
  · have hst : ∀ r ∈ dbOne.array.getD [], ∀ p ∈ r, castVal dbOne.fpType p.2 = p.2 := by decide +kernel
    have h := C08.savezLoad_id dbOne _ dbOne_inv rfl hst
    exact ⟨dbOne, h, h, savezLoad_eq dbOne dbOne dbOne_inv h hst⟩

end Examples

end E3fpVerif.Props.C09Db
