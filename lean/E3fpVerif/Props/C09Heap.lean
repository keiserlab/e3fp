import E3fpVerif.Lemmas.FpHeap
import E3fpVerif.Lemmas.FoldLemmas
/-!
# C09 on fingerprint *objects*: ownership, frames and protected histories

In namespace `E3fpVerif.H`, like the heap model: `Inv` on every reachable heap, frames, what a fold leaves alone when the
source is not in its own cache (true on reachable heaps by `CacheNewer`; `selfCached` shows `Inv` alone is not enough),
the `fold_val*` family (content refines the value model), `protected_history` with `copy_independent` /
`original_independent`, and a worked history.
One operation: a consequence of `step_shape` (`Lemmas/FpHeap.lean`); a history: induction over `run`.
-/
namespace E3fpVerif
namespace H

/-! ## the ownership invariant holds on every reachable heap -/

theorem run_fst_cons (h : Heap) (op : Op) (ops : List Op) :
    (run h (op :: ops)).1 = (run (step h op).1 ops).1 := rfl

theorem inv_empty : Inv {} where
  wf := by intro r o h; cases h
  sep := by intro r1 r2 o1 o2 h; cases h

theorem step_inv (h : Heap) (op : Op) : Inv h → Inv (step h op).1 :=
  (step_shape h op).inv

theorem run_inv {h : Heap} {ops : List Op} : Inv h → Inv (run h ops).1 := by
  induction ops generalizing h with
  | nil => exact id
  | cons op ops ih => intro hinv; rewrite [run_fst_cons]; exact ih (step_inv h op hinv)

/-! ## objects are never removed, and an operation only changes the object it is applied to -/

theorem run_grows {h : Heap} {ops : List Op} : h.objs.length ≤ (run h ops).1.objs.length := by
  induction ops generalizing h with
  | nil => exact Nat.le_refl _
  | cons op ops ih => rewrite [run_fst_cons]; exact Nat.le_trans (step_shape h op).grows ih

theorem step_frame {h : Heap} {op : Op} (hinv : Inv h) {r : Ref} (hr : r < h.objs.length)
    (ht : target op ≠ some r) (hc : ∀ s, target op = some s → r ∉ cacheRefs h s) :
    view (step h op).1 r = view h r :=
  (step_shape h op).frame hinv hr ht hc

/-! ## folding leaves the source's content alone; a cached fold returns the cached object -/

/-- Folding leaves the source's value, properties, parent link (and unfolding map) unchanged.
The hypothesis `src ∉ cacheRefs h src` cannot be dropped under `Inv` alone (see `fold_source_content_needs_acyclic`
below); it holds on every reachable heap (`fold_source_content_reachable`). -/
theorem fold_source_content {h : Heap} {src bits method : Nat} {linked : Bool} {cm : CountsMethod} {v v' : View}
    (hinv : Inv h) (hself : src ∉ cacheRefs h src) (hv : view h src = some v)
    (hv' : view (step h (.fold src bits method linked cm)).1 src = some v') :
    v'.val = v.val ∧ v'.props = v.props ∧ v'.unfolded = v.unfolded ∧ v'.i2u = v.i2u :=
  (step_shape h _).fold_source hinv hself hv hv'

/-- a fold whose `(bits, method)` is in the source's cache creates no object; if it answers an object, that is the cached child -/
theorem fold_cached_same_object {h : Heap} {src bits method : Nat} {linked : Bool} {cm : CountsMethod}
    {o : FObj} {c : List ((Nat × Nat) × Ref)} {child : Ref}
    (ho : getObj h src = some o) (hc : getCache h o.cache = some c) (hd : dictGet c (bits, method) = some child) :
    ((step h (.fold src bits method linked cm)).2 = .ref child ∨
      (∃ e, (step h (.fold src bits method linked cm)).2 = .err e) ∨
      (step h (.fold src bits method linked cm)).2 = .bad) ∧
    (step h (.fold src bits method linked cm)).1.objs.length = h.objs.length := by
  dsimp only [step]
  rewrite [ho]
  dsimp only
  split
  · rename_i v p cache hv hp hc'
    rewrite [hc] at hc'; cases hc'
    split
    · simp
    · simp only [hd]
      split
      · simp
      · split <;> simp
      · simp
  · simp

/-- a cached fold that passes the value-level checks answers the cached object itself
(or `bad` when a count child carries no unfolding map, which no constructor produces); for a bit
fingerprint the heap is not touched at all -/
theorem fold_cached_ref {h : Heap} {src bits method : Nat} {linked : Bool} {cm : CountsMethod} {v : View}
    {w : Fp} {child : Ref} (hv : view h src = some v) (hw : v.val.fold bits method cm = .ok w)
    (hd : dictGet v.cache (bits, method) = some child) :
    ((step h (.fold src bits method linked cm)).2 = .ref child ∨
      (step h (.fold src bits method linked cm)).2 = .bad) ∧
    (v.val.kind = .bit → step h (.fold src bits method linked cm) = (h, .ref child)) := by
  obtain ⟨o, ho, ha, hp, hc, _⟩ := view_eq_some.mp hv
  have hk := absFp_kind ha
  dsimp only [step]
  simp only [ho, ha, hp, hc, hw, hd]
  split
  · simp
  · rename_i hnb
    refine ⟨?_, fun hb => absurd (hk ▸ hb) hnb⟩
    split <;> simp
  · rename_i hnb
    exact ⟨by simp, fun hb => absurd (hk ▸ hb) hnb⟩

/-- cached children are newer than the object that caches them -/
def CacheNewer (h : Heap) : Prop := ∀ s c : Ref, c ∈ cacheRefs h s → s < c

theorem cacheNewer_empty : CacheNewer {} := by
  intro s c hc; cases hc

theorem step_cacheNewer {h : Heap} {op : Op} (hinv : Inv h) (hn : CacheNewer h) : CacheNewer (step h op).1 := by
  intro s c hc
  rcases (step_shape h op).cacheRefs_sub hinv hc with h1 | ⟨h1, h2, _⟩
  · exact hn s c h1
  · rewrite [h1]; exact h2

theorem run_cacheNewer {h : Heap} {ops : List Op} (hinv : Inv h) (hn : CacheNewer h) :
    CacheNewer (run h ops).1 := by
  induction ops generalizing h with
  | nil => exact hn
  | cons op ops ih => rewrite [run_fst_cons]; exact ih (step_inv h op hinv) (step_cacheNewer hinv hn)

theorem fold_source_content_reachable {ops : List Op} {src bits method : Nat} {linked : Bool}
    {cm : CountsMethod} {v v' : View} (hv : view (run {} ops).1 src = some v)
    (hv' : view (step (run {} ops).1 (.fold src bits method linked cm)).1 src = some v') :
    v'.val = v.val ∧ v'.props = v.props ∧ v'.unfolded = v.unfolded ∧ v'.i2u = v.i2u :=
  fold_source_content (run_inv inv_empty)
    (fun hm => Nat.lt_irrefl _ (run_cacheNewer inv_empty cacheNewer_empty src src hm)) hv hv'

deriving instance DecidableEq for View
deriving instance DecidableEq for Ans

/-- a heap satisfying `Inv` in which object 0 sits in its own fold cache (never reached from `{}`) -/
def selfCached : Heap :=
  { objs := [⟨.count, 4, 0, 0, some 1, 2, 3, none, none, some 4⟩],
    cells := [.arr [1], .cnts [(1, 5)], .props [], .cache [((4, 0), 0)], .i2u []] }

theorem selfCached_inv : Inv selfCached where
  wf := by
    intro r o h
    cases r with
    | succ r => cases h
    | zero =>
      cases h
      refine ⟨by decide +kernel, ?_, by decide +kernel, ⟨[((4, 0), 0)], by decide +kernel, by decide +kernel⟩,
        ?_, ?_, ?_⟩
      · intro r hr; cases hr; decide +kernel
      · intro r hr; cases hr
      · intro r hr; cases hr; decide +kernel
      · intro r hr; cases hr
  sep := by
    intro r1 r2 o1 o2 h1 h2 hne
    cases r1 with
    | succ r => cases h1
    | zero => cases r2 with
      | succ r => cases h2
      | zero => exact absurd rfl hne

/-- `fold_source_content` is false under `Inv` alone: folding the self-cached object replaces its own counts -/
theorem fold_source_content_needs_acyclic :
    ∃ (h : Heap) (src bits method : Nat) (linked : Bool) (cm : CountsMethod) (v v' : View),
      Inv h ∧ view h src = some v ∧ view (step h (.fold src bits method linked cm)).1 src = some v' ∧
        v'.val ≠ v.val := by
  refine ⟨selfCached, 0, 4, 0, false, .sum, ⟨⟨.count, 4, 0, [1], [(1, 5)]⟩, [], [((4, 0), 0)], none, none, some []⟩,
    ⟨⟨.count, 4, 0, [1], []⟩, [], [((4, 0), 0)], none, none, some []⟩, selfCached_inv, ?_, ?_, ?_⟩
  · decide +kernel
  · decide +kernel
  · decide +kernel

/-! ## a new object shares nothing with any older object -/

theorem fresh_result {h : Heap} {op : Op} {r : Ref} (hinv : Inv h) (ha : (step h op).2 = .ref r)
    (hr : h.objs.length ≤ r) :
    r = h.objs.length ∧ (step h op).1.objs.length = h.objs.length + 1 ∧
      ∀ o', getObj (step h op).1 r = some o' → ∀ x ∈ slotRefs o', h.cells.length ≤ x :=
  (step_shape h op).fresh_result hinv ha hr

theorem builds_new {h : Heap} {op : Op} {r : Ref} (hb : builds op = true) (ha : (step h op).2 = .ref r) :
    r = h.objs.length :=
  (step_shape h op).builds_ref hb ha

/-! ## content refines the value model -/

theorem fromFp_val {h : Heap} {k : Kind} {src : Ref} {v : View} {w : Fp} (hv : view h src = some v)
    (hw : fromFingerprint k v.val = .ok w) :
    (step h (.fromFp k src)).2 = .ref h.objs.length ∧
    view (step h (.fromFp k src)).1 h.objs.length = some ⟨w, dictUpdate [] v.props, [], none, none, none⟩ := by
  rewrite [step_fromFp_eq hv hw]
  obtain ⟨oc, f, hA⟩ := allocFp_spec h w (dictUpdate [] v.props) none none
  exact ⟨by rw [hA], f.view_new.trans (by rw [Fp.norm_eq (fromFingerprint_fields _ _ _ hw).2.2.2])⟩

theorem fold_val {h : Heap} {src bits method : Nat} {linked : Bool} {cm : CountsMethod} {v : View} {w : Fp}
    (hinv : Inv h) (hv : view h src = some v) (hw : v.val.fold bits method cm = .ok w)
    (hn : dictGet v.cache (bits, method) = none) :
    (step h (.fold src bits method linked cm)).2 = .ref h.objs.length ∧
    view (step h (.fold src bits method linked cm)).1 h.objs.length =
      some ⟨w, dictUpdate [] v.props, [], if linked then some src else none, none,
        some (v.val.unfoldMap bits method)⟩ ∧
    view (step h (.fold src bits method linked cm)).1 src =
      some { v with cache := if linked then dictSet v.cache (bits, method) h.objs.length else v.cache,
                    i2f := some (v.val.foldMap bits method) } := by
  obtain ⟨o, ho, _, _, hc, _⟩ := view_eq_some.mp hv
  rewrite [step_fold_new_eq hv ho hw hn]
  have sp := foldNew_spec (v := v.val) (p := v.props) bits method linked w hinv ho hc
  exact ⟨by rw [sp.child], sp.viewChild.trans (by rw [Fp.norm_eq (fold_cnt_of_bit _ _ _ _ _ hw)]), sp.viewSrc v hv⟩

/-- a linked new fold is afterwards found in the source's cache -/
theorem fold_val_linked {h : Heap} {src bits method : Nat} {cm : CountsMethod} {v : View} {w : Fp}
    (hinv : Inv h) (hv : view h src = some v) (hw : v.val.fold bits method cm = .ok w)
    (hn : dictGet v.cache (bits, method) = none) :
    ∃ vs, view (step h (.fold src bits method true cm)).1 src = some vs ∧
      dictGet vs.cache (bits, method) = some h.objs.length :=
  ⟨_, (fold_val (linked := true) hinv hv hw hn).2.2, dictGet_dictSet_self _ _ _⟩

/-! ## protected histories -/

/-- no member of `T` is cached on an object outside `T`: then operations on objects outside `T` change no view in `T` -/
theorem protected_history {h : Heap} {T : List Ref} {ops : List Op} (hinv : Inv h)
    (hT : ∀ t ∈ T, t < h.objs.length)
    (hC : ∀ s, s < h.objs.length → s ∉ T → ∀ c ∈ cacheRefs h s, c ∉ T)
    (hops : ∀ op ∈ ops, ∀ s, target op = some s → s ∉ T) :
    ∀ t ∈ T, view (run h ops).1 t = view h t := by
  induction ops generalizing h with
  | nil => intro t _; rfl
  | cons op ops ih =>
    intro t ht
    have hop := hops op (List.mem_cons_self ..)
    have hC' : ∀ s, s ∉ T → ∀ c ∈ cacheRefs h s, c ∉ T := by
      intro s hs c hc
      by_cases hlt : s < h.objs.length
      · exact hC s hlt hs c hc
      · rewrite [cacheRefs_ge (Nat.le_of_not_lt hlt)] at hc; cases hc
    rewrite [run_fst_cons, ← step_frame hinv (hT t ht) (fun e => hop t e ht) fun s hs hm => hC' s (hop s hs) t hm ht]
    refine ih (step_inv h op hinv) ?_ ?_ ?_ t ht
    · intro t ht; exact Nat.lt_of_lt_of_le (hT t ht) (step_shape h op).grows
    · intro s _ hs c hc hcT
      rcases (step_shape h op).cacheRefs_sub hinv hc with h1 | ⟨h1, _, _⟩
      · exact hC' s hs c h1 hcT
      · exact Nat.lt_irrefl _ (h1 ▸ hT c hcT)
    · intro op' hop' s hs; exact hops op' (List.mem_cons_of_mem _ hop') s hs

/-- after `c = from_fingerprint(src)`, nothing done to `c` or to later objects changes an older object -/
theorem copy_independent {h h1 : Heap} {k : Kind} {src c : Ref} (hinv : Inv h)
    (hs : step h (.fromFp k src) = (h1, .ref c)) {ops : List Op}
    (hops : ∀ op ∈ ops, ∀ s, target op = some s → h.objs.length ≤ s) {t : Ref} (ht : t < h.objs.length) :
    view (run h1 ops).1 t = view h t := by
  obtain rfl : (step h (.fromFp k src)).1 = h1 := by rw [hs]
  rewrite [← step_frame hinv ht (op := .fromFp k src) nofun nofun]
  refine protected_history (T := List.range h.objs.length) (step_inv h _ hinv) ?_ ?_ ?_ t (List.mem_range.mpr ht)
  · intro t ht; exact Nat.lt_of_lt_of_le (List.mem_range.mp ht) (step_shape h _).grows
  · intro s _ hs c hc _
    rewrite [List.mem_range] at hs
    rcases (step_shape h _).cacheRefs_sub hinv hc with h2 | ⟨_, h2, _⟩
    · rewrite [cacheRefs_ge (Nat.le_of_not_lt hs)] at h2; cases h2
    · exact hs h2
  · intro op hop s hs hm
    exact Nat.not_le_of_lt (List.mem_range.mp hm) (hops op hop s hs)

/-- ... and nothing done to other objects changes `c` -/
theorem original_independent {h h1 : Heap} {k : Kind} {src c : Ref} (hinv : Inv h)
    (hs : step h (.fromFp k src) = (h1, .ref c)) {ops : List Op}
    (hops : ∀ op ∈ ops, target op ≠ some c) :
    view (run h1 ops).1 c = view h1 c := by
  obtain rfl : (step h (.fromFp k src)).1 = h1 := by rw [hs]
  have e2 : (step h (.fromFp k src)).2 = .ref c := by rw [hs]
  obtain rfl : c = h.objs.length := builds_new rfl e2
  have hlen := (fresh_result hinv e2 (Nat.le_refl _)).2.1
  refine protected_history (T := [h.objs.length]) (step_inv h _ hinv) ?_ ?_ ?_ _ (List.mem_singleton_self _)
  · intro t ht; rewrite [List.mem_singleton] at ht; subst ht; rewrite [hlen]; exact Nat.lt_succ_self _
  · intro s _ _ c' hc' hm
    rewrite [List.mem_singleton] at hm; subst hm
    rcases (step_shape h _).cacheRefs_sub hinv hc' with h2 | ⟨_, _, h2⟩
    · exact Nat.lt_irrefl _ (cacheRefs_lt hinv h2)
    · cases h2
  · intro op hop s' hs' hm
    rewrite [List.mem_singleton] at hm; subst hm; exact hops op hop hs'

/-! ## non-vacuity: a history evaluated by the kernel -/

/-- a count fingerprint, its linked fold (twice), a copy -/
def demoSetup : List Op :=
  [.new .count (some [1, 5, 6, 5]) none 8 5 (some "mol") [("k", .i 3)],
   .fold 0 4 0 true .sum, .fold 0 4 0 true .sum, .fromFp .count 0]

/-- what is then done to the copy (object 2): an in-place poke, a renaming, a fold, new counts -/
def demoOps : List Op :=
  [.pokeIdx 2 0 0, .setName 2 "copy", .fold 2 4 1 true .max, .setCounts 2 [(1, 7)], .pokeCount 2 1 9]

theorem demoOps_target : ∀ op ∈ demoOps, target op = some 2 := by decide

/-- a linked fold returns the same object twice, and the copy is a third object -/
example : (run {} demoSetup).2 = [.ref 0, .ref 1, .ref 1, .ref 2] := by decide +kernel

example : Inv (run {} demoSetup).1 := run_inv inv_empty

/-- the hypotheses of `protected_history` hold for `T = [0, 1]` (the original and its folded child) -/
example : ∀ t ∈ [0, 1], view (run (run {} demoSetup).1 demoOps).1 t = view (run {} demoSetup).1 t := by
  refine protected_history (T := [0, 1]) (run_inv inv_empty) (by decide +kernel) (by decide +kernel) ?_
  intro op hop s hs
  cases (demoOps_target op hop).symm.trans hs
  decide

/-- ... while the same history does change the copy -/
example : view (run (run {} demoSetup).1 demoOps).1 2 ≠ view (run {} demoSetup).1 2 := by decide +kernel

/-- the heap before the copy is made: the original (object 0) and its folded child (object 1) -/
def demoBefore : Heap := (run {} (demoSetup.take 3)).1

/-- the copy is object 2 -/
theorem demoCopy : step demoBefore (.fromFp .count 0) = ((step demoBefore (.fromFp .count 0)).1, .ref 2) :=
  Prod.ext rfl (by decide +kernel)

/-- `copy_independent` applies: whatever is done to the copy leaves objects 0 and 1 as they were -/
example : ∀ t < 2, view (run (step demoBefore (.fromFp .count 0)).1 demoOps).1 t = view demoBefore t := by
  intro t ht
  have hl : demoBefore.objs.length = 2 := by decide +kernel
  refine copy_independent (run_inv inv_empty) demoCopy ?_ (hl ▸ ht)
  intro op hop s hs
  cases (demoOps_target op hop).symm.trans hs
  exact Nat.le_of_eq hl

/-- `original_independent` applies: whatever is done to the original and its fold leaves the copy as it was -/
example : view (run (step demoBefore (.fromFp .count 0)).1
      [.setLevel 0 3, .pokeCount 0 5 4, .fold 0 2 0 true .sum, .setName 1 "x", .pokeIdx 1 0 3]).1 2 =
    view (step demoBefore (.fromFp .count 0)).1 2 := by
  exact original_independent (run_inv inv_empty) demoCopy (by decide +kernel)

end H
end E3fpVerif
