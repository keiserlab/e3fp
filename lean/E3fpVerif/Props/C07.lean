import E3fpVerif.Model.Fprint
import E3fpVerif.Lemmas.Uniq
import E3fpVerif.Lemmas.FoldLemmas
import E3fpVerif.Model.Db
import E3fpVerif.Lemmas.DbCols
import E3fpVerif.Lemmas.DbCast
import E3fpVerif.Gen.Decisions
/-!
# C07 — folding is index reduction and commutes with every route to a folded result

Statements are about `Fp.fold` (model of `Fingerprint.fold` / `CountFingerprint.fold`), whose index
expressions are the generated `Gen.foldPartition` / `Gen.foldCompress`, translated from the source; then the
database's row fold (`dbFoldRow`), the refusal guards translated from the source, and worked examples.
-/
namespace E3fpVerif.Props.C07
open E3fpVerif

/-! ## the index expressions -/

/-- what the generated index expressions say -/
theorem foldIdx_partition (a b i : Nat) : foldIdx 0 a b i = i % b := by
  simp [foldIdx, Gen.foldPartition]

theorem foldIdx_compress (a b i : Nat) : foldIdx 1 a b i = i / (a / b) := by
  simp [foldIdx, Gen.foldCompress]

theorem foldIdx_lt (m A b n i : Nat) (hm : m = 0 ∨ m = 1) (hb : 0 < b) (hA : A = b * 2 ^ n) (hi : i < A) :
    foldIdx m A b i < b := by
  subst hA
  rcases hm with rfl | rfl
  · rewrite [foldIdx_partition]; exact Nat.mod_lt _ hb
  · rwa [foldIdx_compress, Nat.mul_div_cancel_left _ hb, Nat.div_lt_iff_lt_mul (Nat.pow_pos (by decide))]

theorem foldIdx_comp (m A a b k l i : Nat) (hm : m = 0 ∨ m = 1) (hb : 0 < b)
    (hA : A = a * 2 ^ k) (ha : a = b * 2 ^ l) :
    foldIdx m a b (foldIdx m A a i) = foldIdx m A b i := by
  subst hA ha
  rcases hm with rfl | rfl
  · simp only [foldIdx_partition]
    exact Nat.mod_mod_of_dvd i ⟨2 ^ l, rfl⟩
  · simp only [foldIdx_compress]
    -- the three length ratios are `2^k`, `2^l` and `2^l * 2^k`
    rw [Nat.div_div_eq_div_mul, Nat.mul_div_cancel_left _ (Nat.mul_pos hb (Nat.pow_pos (by decide))),
      Nat.mul_div_cancel_left _ hb, Nat.mul_assoc, Nat.mul_div_cancel_left _ hb, Nat.mul_comm]

theorem mem_preimage (f : Fp) (b m j i : Nat) : i ∈ preimage f b m j ↔ i ∈ f.idx ∧ foldIdx m f.bits b i = j := by
  simp [preimage]

/-! ## when a fold succeeds, and the fields of the result -/

/-- folding succeeds exactly on lengths `b ≤ bits` with `bits = b * 2^n`, and methods 0 and 1 -/
theorem fold_rejects (f : Fp) (b m : Nat) (cm : CountsMethod) (hb : 0 < b) :
    (∃ g, f.fold b m cm = .ok g) ↔ (b ≤ f.bits ∧ (∃ n, f.bits = b * 2 ^ n) ∧ (m = 0 ∨ m = 1)) := by
  simp only [fold_ok_iff, isPow2Multiple_iff _ _ hb]
  constructor
  · rintro ⟨_, h1, h2, h3, _⟩
    exact ⟨h1, h2, h3⟩
  · rintro ⟨h1, h2, h3⟩
    exact ⟨_, h1, h2, h3, rfl⟩

theorem fold_eq_of (f : Fp) (b m : Nat) (cm : CountsMethod) (hb : 0 < b) (hn : ∃ n, f.bits = b * 2 ^ n)
    (hm : m = 0 ∨ m = 1) :
    ∃ g, f.fold b m cm = .ok g := by
  refine (fold_rejects f b m cm hb).2 ⟨?_, hn, hm⟩
  obtain ⟨n, hn⟩ := hn
  rewrite [hn]
  exact Nat.le_mul_of_pos_right b (Nat.pow_pos (by decide))

theorem fold_ok (f g : Fp) (b m : Nat) (cm : CountsMethod) (h : f.fold b m cm = .ok g) :
    g.kind = f.kind ∧ g.bits = b ∧ g.level = f.level ∧
      g.idx = uniq (f.idx.map (foldIdx m f.bits b)) := by
  obtain ⟨_, _, _, rfl⟩ := (fold_ok_iff f g b m cm).1 h
  exact ⟨rfl, rfl, rfl, rfl⟩

/-- partitioning: the folded positions are the remainders modulo the new length -/
theorem fold_indices_partition (f g : Fp) (b : Nat) (cm : CountsMethod) (h : f.fold b 0 cm = .ok g) :
    g.idx = uniq (f.idx.map (· % b)) :=
  (fold_ok f g b 0 cm h).2.2.2

/-- compression: the folded positions are the quotients by the length ratio -/
theorem fold_indices_compress (f g : Fp) (b : Nat) (cm : CountsMethod) (h : f.fold b 1 cm = .ok g) :
    g.idx = uniq (f.idx.map (· / (f.bits / b))) :=
  (fold_ok f g b 1 cm h).2.2.2

/-- bit fingerprints combine collisions with OR: a folded bit is set iff some original bit maps to it -/
theorem fold_or (f g : Fp) (b m : Nat) (cm : CountsMethod) (h : f.fold b m cm = .ok g) (j : Nat) :
    j ∈ g.idx ↔ ∃ i ∈ f.idx, foldIdx m f.bits b i = j := by
  rw [(fold_ok f g b m cm h).2.2.2, mem_uniq, List.mem_map]

/-- everything a successful fold tells us: the acceptance conditions and every field of the result -/
theorem fold_spec (f g : Fp) (b m : Nat) (cm : CountsMethod) (h : f.fold b m cm = .ok g) :
    b ≤ f.bits ∧ 0 < b ∧ (∃ n, f.bits = b * 2 ^ n) ∧ (m = 0 ∨ m = 1) ∧
      g.kind = f.kind ∧ g.bits = b ∧ g.level = f.level ∧
      g.idx = uniq (f.idx.map (foldIdx m f.bits b)) ∧
      (f.kind = .bit → g.cnt = []) ∧
      (f.kind ≠ .bit → g.cnt = (uniq (f.idx.map (foldIdx m f.bits b))).map
          (fun j => (j, coerce f.kind (combine cm ((preimage f b m j).map f.count))))) := by
  obtain ⟨h1, h2, h3, rfl⟩ := (fold_ok_iff f g b m cm).1 h
  obtain ⟨hb, hn⟩ := isPow2Multiple_exists h2
  refine ⟨h1, hb, hn, h3, rfl, rfl, rfl, rfl, fun hk => ?_, fun hk => ?_⟩
  · rw [folded_of_bit f b m cm hk]
  · rewrite [folded_of_ne_bit f b m cm hk]; rfl

/-- the bound alone needs only the bound of the original (not the whole invariant) -/
theorem fold_idx_lt (f g : Fp) (b m : Nat) (cm : CountsMethod) (hlt : ∀ i ∈ f.idx, i < f.bits)
    (h : f.fold b m cm = .ok g) : ∀ j ∈ g.idx, j < b := by
  obtain ⟨_, hb, ⟨n, hn⟩, hm, _, _, _, hidx, _, _⟩ := fold_spec f g b m cm h
  intro j hj
  rewrite [hidx, mem_uniq, List.mem_map] at hj
  obtain ⟨i, hi, rfl⟩ := hj
  exact foldIdx_lt m f.bits b n i hm hb hn (hlt i hi)

/-- the class invariant survives folding: indices strictly ascending and below the new length, counts
keyed by exactly the indices (no counts for a bit fingerprint) -/
theorem fold_wf (f g : Fp) (b m : Nat) (cm : CountsMethod) (hf : f.WF) (h : f.fold b m cm = .ok g) :
    g.WF := by
  obtain ⟨_, _, _, _, hk, hbits, _, hidx, hc1, hc2⟩ := fold_spec f g b m cm h
  refine ⟨hidx ▸ strictAsc_uniq _, hbits ▸ fold_idx_lt f g b m cm hf.2.1 h, fun hk' => hc1 (hk ▸ hk'), fun hk' => ?_⟩
  rw [hc2 (hk ▸ hk'), hidx, map_fst_graph]

/-- folding a well-formed fingerprint to its own length keeps the index array (both methods) -/
theorem fold_self_idx (f g : Fp) (m : Nat) (cm : CountsMethod) (hf : f.WF)
    (h : f.fold f.bits m cm = .ok g) : g.idx = f.idx := by
  obtain ⟨_, p, hm, rfl⟩ := (fold_ok_iff f g f.bits m cm).1 h
  refine (congrArg uniq ((List.map_congr_left fun i hi => ?_).trans (List.map_id _))).trans
    (uniq_of_strictAsc _ hf.1)
  rcases hm with rfl | rfl
  · rewrite [foldIdx_partition]; exact Nat.mod_eq_of_lt (hf.2.1 i hi)
  · rewrite [foldIdx_compress, Nat.div_self (isPow2Multiple_pos p)]; exact Nat.div_one i

/-! ## the folded counts and their total -/

/-- count / float fingerprints: the folded count at `j` is the combination (sum / max / min) of the
counts of the original positions folding onto `j`, passed through the class's counts setter;
positions nothing folds onto have count 0 -/
theorem fold_count (f g : Fp) (b m : Nat) (cm : CountsMethod) (hk : f.kind ≠ .bit)
    (h : f.fold b m cm = .ok g) (j : Nat) :
    g.count j = if j ∈ g.idx then coerce f.kind (combine cm ((preimage f b m j).map f.count)) else 0 := by
  obtain ⟨_, _, _, rfl⟩ := (fold_ok_iff f g b m cm).1 h
  rewrite [folded_of_ne_bit f b m cm hk]
  exact Fp.tab_count _ _ _ _ _ hk j

theorem fold_count_mem (f g : Fp) (b m : Nat) (cm : CountsMethod) (hk : f.kind ≠ .bit)
    (h : f.fold b m cm = .ok g) (j : Nat) (hj : j ∈ g.idx) :
    g.count j = coerce f.kind (combine cm ((preimage f b m j).map f.count)) := by
  rw [fold_count f g b m cm hk h j, if_pos hj]

theorem fold_count_not_mem (f g : Fp) (b m : Nat) (cm : CountsMethod) (hk : f.kind ≠ .bit)
    (h : f.fold b m cm = .ok g) (j : Nat) (hj : j ∉ g.idx) : g.count j = 0 := by
  rw [fold_count f g b m cm hk h j, if_neg hj]

/-- bit fingerprints: the folded "count" is the OR of the original bits folding onto `j` -/
theorem fold_count_bit (f g : Fp) (b m : Nat) (cm : CountsMethod) (hk : f.kind = .bit)
    (h : f.fold b m cm = .ok g) (j : Nat) :
    g.count j = if ∃ i ∈ f.idx, foldIdx m f.bits b i = j then 1 else 0 := by
  rewrite [Fp.count_of_bit g ((fold_ok f g b m cm h).1.trans hk)]
  simp only [fold_or f g b m cm h j]

theorem coerce_fibre (f : Fp) (b m j : Nat) (hs : ∀ i ∈ f.idx, coerce f.kind (f.count i) = f.count i) :
    coerce f.kind (sumQ ((preimage f b m j).map f.count)) = sumQ ((preimage f b m j).map f.count) := by
  apply coerce_sumQ
  intro q hq
  obtain ⟨i, hi, rfl⟩ := List.mem_map.1 hq
  exact hs i ((mem_preimage f b m j i).1 hi).1

/-- general form: a summing fold of a count/float fingerprint whose counts the setter leaves alone
conserves the total count.  (No well-formedness needed.) -/
theorem fold_total_gen (f g : Fp) (b m : Nat) (hk : f.kind ≠ .bit)
    (hs : ∀ i ∈ f.idx, coerce f.kind (f.count i) = f.count i)
    (h : f.fold b m .sum = .ok g) :
    sumQ (g.idx.map g.count) = sumQ (f.idx.map f.count) := by
  have hidx := (fold_ok f g b m .sum h).2.2.2
  rewrite [← sumQ_fibres_uniq f.idx (foldIdx m f.bits b) f.count, ← hidx]
  refine congrArg sumQ (List.map_congr_left fun j hj => ?_)
  rewrite [fold_count_mem f g b m .sum hk h j hj]
  exact coerce_fibre f b m j hs

/-- float fingerprints: the total is conserved -/
theorem fold_total (f g : Fp) (b m : Nat) (hk : f.kind = .float) (h : f.fold b m .sum = .ok g) :
    sumQ (g.idx.map g.count) = sumQ (f.idx.map f.count) :=
  fold_total_gen f g b m (by rewrite [hk]; decide) (by intro i _; rewrite [hk]; rfl) h

/-- count fingerprints with integer counts: the total is conserved -/
theorem fold_total_count (f g : Fp) (b m : Nat) (hk : f.kind = .count)
    (hint : ∀ i ∈ f.idx, truncQ (f.count i) = f.count i) (h : f.fold b m .sum = .ok g) :
    sumQ (g.idx.map g.count) = sumQ (f.idx.map f.count) :=
  fold_total_gen f g b m (by rewrite [hk]; decide) (by intro i hi; rewrite [hk]; exact hint i hi) h

/-- and the folded counts of such a fingerprint are again integers -/
theorem fold_count_int (f g : Fp) (b m : Nat) (hk : f.kind = .count)
    (hint : ∀ i ∈ f.idx, truncQ (f.count i) = f.count i) (h : f.fold b m .sum = .ok g) :
    ∀ j ∈ g.idx, truncQ (g.count j) = g.count j := by
  intro j hj
  rewrite [fold_count_mem f g b m .sum (by rewrite [hk]; decide) h j hj, hk]
  exact truncQ_idem _

/-! ## two folds in a row against one -/

theorem folded_idx_comp (f : Fp) (a b m k l : Nat) (hm : m = 0 ∨ m = 1) (hb : 0 < b)
    (hA : f.bits = a * 2 ^ k) (ha : a = b * 2 ^ l) :
    uniq ((uniq (f.idx.map (foldIdx m f.bits a))).map (foldIdx m a b)) = uniq (f.idx.map (foldIdx m f.bits b)) := by
  rewrite [uniq_map_uniq, List.map_map]
  exact congrArg uniq (List.map_congr_left fun i _ => foldIdx_comp m f.bits a b k l i hm hb hA ha)

theorem folded_folded_bit (f : Fp) (a b m k l : Nat) (cm₁ cm₂ cm : CountsMethod) (hk : f.kind = .bit)
    (hm : m = 0 ∨ m = 1) (hb : 0 < b) (hA : f.bits = a * 2 ^ k) (ha : a = b * 2 ^ l) :
    folded (folded f a m cm₁) b m cm₂ = folded f b m cm := by
  rewrite [folded_of_bit (folded f a m cm₁) b m cm₂ hk, folded_of_bit f b m cm hk]
  exact congrArg (fun u => Fp.mk .bit b f.level u []) (folded_idx_comp f a b m k l hm hb hA ha)

theorem folded_folded (f : Fp) (a b m k l : Nat) (hk : f.kind ≠ .bit)
    (hs : ∀ i ∈ f.idx, coerce f.kind (f.count i) = f.count i)
    (hm : m = 0 ∨ m = 1) (hb : 0 < b) (hA : f.bits = a * 2 ^ k) (ha : a = b * 2 ^ l) :
    folded (folded f a m .sum) b m .sum = folded f b m .sum := by
  rewrite [folded_of_ne_bit f b m .sum hk, folded_of_ne_bit (folded f a m .sum) b m .sum hk]
  refine Fp.tab_congr _ _ _ (folded_idx_comp f a b m k l hm hb hA ha) fun x _ => congrArg (coerce f.kind) ?_
  -- the `b`-fibre of `x` in the `a`-fold, counted with the `a`-fibre sums, is the `b`-fibre of `x` in `f`
  refine (congrArg sumQ (List.map_congr_left fun j hj => ?_)).trans
    ((sumQ_fibres_comp f.idx (foldIdx m f.bits a) (foldIdx m a b) f.count x).trans ?_)
  · rewrite [folded_of_ne_bit f a m .sum hk, Fp.tab_count _ _ _ _ _ hk, if_pos (by exact (List.mem_filter.1 hj).1)]
    exact coerce_fibre f a m j hs
  · refine congrArg (fun l => sumQ (l.map f.count)) (List.filter_congr fun i _ => ?_)
    rw [foldIdx_comp m f.bits a b k l i hm hb hA ha]

theorem fold_fold_lengths (f g₁ g₂ : Fp) (a b m : Nat) (cm₁ cm₂ : CountsMethod)
    (h₁ : f.fold a m cm₁ = .ok g₁) (h₂ : g₁.fold b m cm₂ = .ok g₂) :
    g₁ = folded f a m cm₁ ∧ g₂ = folded g₁ b m cm₂ ∧ (m = 0 ∨ m = 1) ∧ 0 < b ∧
      ∃ k l, f.bits = a * 2 ^ k ∧ a = b * 2 ^ l := by
  obtain ⟨_, p₁, hm, rfl⟩ := (fold_ok_iff f g₁ a m cm₁).1 h₁
  obtain ⟨_, p₂, _, rfl⟩ := (fold_ok_iff _ g₂ b m cm₂).1 h₂
  obtain ⟨_, k, hA⟩ := isPow2Multiple_exists p₁
  obtain ⟨hb, l, ha⟩ := isPow2Multiple_exists p₂
  exact ⟨rfl, rfl, hm, hb, k, l, hA, ha⟩

/-- both methods, any counts methods: `A → a → b` and `A → b` give the same kind, length, level and
index array -/
theorem fold_fold_idx (f g₁ g₂ g : Fp) (a b m : Nat) (cm₁ cm₂ cm : CountsMethod)
    (h₁ : f.fold a m cm₁ = .ok g₁) (h₂ : g₁.fold b m cm₂ = .ok g₂) (h : f.fold b m cm = .ok g) :
    g₂.kind = g.kind ∧ g₂.bits = g.bits ∧ g₂.level = g.level ∧ g₂.idx = g.idx := by
  obtain ⟨rfl, rfl, hm, hb, k, l, hA, ha⟩ := fold_fold_lengths f g₁ g₂ a b m cm₁ cm₂ h₁ h₂
  obtain ⟨_, _, _, rfl⟩ := (fold_ok_iff f g b m cm).1 h
  exact ⟨rfl, rfl, rfl, folded_idx_comp f a b m k l hm hb hA ha⟩

/-- when the first fold exists, the one-step fold exists too (so `fold_fold_idx` needs only two of
its three hypotheses to be non-vacuous) -/
theorem fold_fold_exists (f g₁ g₂ : Fp) (a b m : Nat) (cm₁ cm₂ cm : CountsMethod)
    (h₁ : f.fold a m cm₁ = .ok g₁) (h₂ : g₁.fold b m cm₂ = .ok g₂) : ∃ g, f.fold b m cm = .ok g := by
  obtain ⟨_, _, hm, hb, k, l, hA, ha⟩ := fold_fold_lengths f g₁ g₂ a b m cm₁ cm₂ h₁ h₂
  exact fold_eq_of f b m cm hb ⟨l + k, by rw [hA, ha, Nat.pow_add, Nat.mul_assoc]⟩ hm

/-- bit fingerprints: the two routes give the same fingerprint -/
theorem fold_fold_bit (f g₁ g₂ g : Fp) (a b m : Nat) (cm₁ cm₂ cm : CountsMethod) (hk : f.kind = .bit)
    (h₁ : f.fold a m cm₁ = .ok g₁) (h₂ : g₁.fold b m cm₂ = .ok g₂) (h : f.fold b m cm = .ok g) :
    g₂ = g := by
  obtain ⟨rfl, rfl, hm, hb, k, l, hA, ha⟩ := fold_fold_lengths f g₁ g₂ a b m cm₁ cm₂ h₁ h₂
  obtain ⟨_, _, _, rfl⟩ := (fold_ok_iff f g b m cm).1 h
  exact folded_folded_bit f a b m k l cm₁ cm₂ cm hk hm hb hA ha

/-- count/float fingerprints with setter-stable counts, summing folds: the two routes give the same
fingerprint -/
theorem fold_fold_eq_gen (f g₁ g₂ g : Fp) (a b m : Nat) (hk : f.kind ≠ .bit)
    (hs : ∀ i ∈ f.idx, coerce f.kind (f.count i) = f.count i)
    (h₁ : f.fold a m .sum = .ok g₁) (h₂ : g₁.fold b m .sum = .ok g₂) (h : f.fold b m .sum = .ok g) :
    g₂ = g := by
  obtain ⟨rfl, rfl, hm, hb, k, l, hA, ha⟩ := fold_fold_lengths f g₁ g₂ a b m .sum .sum h₁ h₂
  obtain ⟨_, _, _, rfl⟩ := (fold_ok_iff f g b m .sum).1 h
  exact folded_folded f a b m k l hk hs hm hb hA ha

theorem fold_fold_eq (f g₁ g₂ g : Fp) (a b m : Nat) (hk : f.kind = .float)
    (h₁ : f.fold a m .sum = .ok g₁) (h₂ : g₁.fold b m .sum = .ok g₂) (h : f.fold b m .sum = .ok g) :
    g₂ = g :=
  fold_fold_eq_gen f g₁ g₂ g a b m (by rewrite [hk]; decide) (by intro i _; rewrite [hk]; rfl) h₁ h₂ h

/-- float fingerprints: hence the same count at every position -/
theorem fold_fold_counts (f g₁ g₂ g : Fp) (a b m : Nat) (hk : f.kind = .float)
    (h₁ : f.fold a m .sum = .ok g₁) (h₂ : g₁.fold b m .sum = .ok g₂) (h : f.fold b m .sum = .ok g)
    (x : Nat) : g₂.count x = g.count x := by
  rw [fold_fold_eq f g₁ g₂ g a b m hk h₁ h₂ h]

/-- count fingerprints with integer counts -/
theorem fold_fold_eq_count (f g₁ g₂ g : Fp) (a b m : Nat) (hk : f.kind = .count)
    (hint : ∀ i ∈ f.idx, truncQ (f.count i) = f.count i)
    (h₁ : f.fold a m .sum = .ok g₁) (h₂ : g₁.fold b m .sum = .ok g₂) (h : f.fold b m .sum = .ok g) :
    g₂ = g :=
  fold_fold_eq_gen f g₁ g₂ g a b m (by rewrite [hk]; decide) (by intro i hi; rewrite [hk]; exact hint i hi) h₁ h₂ h

/-! ## the two index maps -/

/-- the keys of the unfolding map are the folded indices, in order -/
theorem fold_maps_keys (f g : Fp) (b m : Nat) (cm : CountsMethod) (h : f.fold b m cm = .ok g) :
    (f.unfoldMap b m).map Prod.fst = g.idx := by
  rewrite [(fold_ok f g b m cm h).2.2.2]
  simp [Fp.unfoldMap, Function.comp_def]

theorem mem_unfoldMap (f : Fp) (b m j : Nat) (l : List Nat) :
    (j, l) ∈ f.unfoldMap b m ↔ (∃ i ∈ f.idx, foldIdx m f.bits b i = j) ∧ l = preimage f b m j := by
  unfold Fp.unfoldMap
  constructor
  · intro h
    obtain ⟨j', hj', e⟩ := List.mem_map.1 h
    cases e
    exact ⟨List.mem_map.1 ((mem_uniq _ _).1 hj'), rfl⟩
  · rintro ⟨hj, rfl⟩
    exact List.mem_map.2 ⟨j, (mem_uniq _ _).2 (List.mem_map.2 hj), rfl⟩

/-- the entries are exactly `(j, preimage j)` for the folded indices `j` -/
theorem fold_maps_entry (f g : Fp) (b m : Nat) (cm : CountsMethod) (h : f.fold b m cm = .ok g)
    (p : Nat × List Nat) :
    p ∈ f.unfoldMap b m ↔ p.1 ∈ g.idx ∧ p.2 = preimage f b m p.1 := by
  rewrite [fold_or f g b m cm h]
  exact mem_unfoldMap f b m p.1 p.2

theorem fold_maps_mem (f : Fp) (b m j : Nat) (l : List Nat) (hp : (j, l) ∈ f.unfoldMap b m) (i : Nat) :
    i ∈ l ↔ i ∈ f.idx ∧ foldIdx m f.bits b i = j := by
  rewrite [((mem_unfoldMap f b m j l).1 hp).2]
  exact mem_preimage f b m j i

theorem fold_maps_cover (f : Fp) (b m i : Nat) (hi : i ∈ f.idx) :
    (foldIdx m f.bits b i, preimage f b m (foldIdx m f.bits b i)) ∈ f.unfoldMap b m ∧
      i ∈ preimage f b m (foldIdx m f.bits b i) :=
  ⟨(mem_unfoldMap f b m _ _).2 ⟨⟨i, hi, rfl⟩, rfl⟩, (mem_preimage f b m _ i).2 ⟨hi, rfl⟩⟩

/-- an original index is listed under no key but its image -/
theorem fold_maps_unique (f : Fp) (b m j i : Nat) (l : List Nat) (hp : (j, l) ∈ f.unfoldMap b m)
    (hi : i ∈ l) : j = foldIdx m f.bits b i :=
  ((fold_maps_mem f b m j l hp i).1 hi).2.symm

theorem fold_maps_nonempty (f : Fp) (b m j : Nat) (l : List Nat) (hp : (j, l) ∈ f.unfoldMap b m) :
    l ≠ [] := by
  obtain ⟨⟨i, hi, e⟩, rfl⟩ := (mem_unfoldMap f b m j l).1 hp
  exact List.ne_nil_of_mem ((mem_preimage f b m j i).2 ⟨hi, e⟩)

theorem fold_maps_foldMap (f : Fp) (b m : Nat) :
    f.foldMap b m = f.idx.map (fun i => (i, foldIdx m f.bits b i)) := rfl

/-- the two maps are inverse views of one relation -/
theorem fold_maps_inverse (f : Fp) (b m i j : Nat) :
    (i, j) ∈ f.foldMap b m ↔ ∃ l, (j, l) ∈ f.unfoldMap b m ∧ i ∈ l := by
  unfold Fp.foldMap
  rewrite [List.mem_map]
  constructor
  · rintro ⟨i', hi', e⟩
    cases e
    exact ⟨_, fold_maps_cover f b m i hi'⟩
  · rintro ⟨l, hp, hi⟩
    obtain ⟨h1, h2⟩ := (fold_maps_mem f b m j l hp i).1 hi
    exact ⟨i, h1, by rw [h2]⟩

/-! ## the database folds a row the way a fingerprint folds (method 0) -/

/-- the row the database computes for a stored row `r` when folding to `bits` columns -/
def dbFoldRow (r : Row) (bits : Nat) : Row :=
  sumDuplicates (r.map (fun p => (Gen.dbFoldIndex p.1 bits, p.2)))

/-- its columns are the distinct remainders, ascending -/
theorem db_fold_row_cols (r : Row) (bits : Nat) :
    (dbFoldRow r bits).map Prod.fst = uniq ((r.map Prod.fst).map (· % bits)) := by
  unfold dbFoldRow sumDuplicates
  rewrite [map_fst_graph, List.map_map, List.map_map]
  rfl

/-- its value at `j` is the sum of the stored values whose column folds onto `j` (0 if none does) -/
theorem db_fold_row_val (r : Row) (bits j : Nat) :
    lookupQ (dbFoldRow r bits) j
      = if j ∈ uniq ((r.map Prod.fst).map (· % bits))
        then sumQ ((r.filter (fun p => decide (p.1 % bits = j))).map Prod.snd) else 0 := by
  unfold dbFoldRow sumDuplicates
  rewrite [lookupQ_graph, List.map_map, List.map_map, List.filter_map, List.map_map]
  rfl

theorem sumDuplicates_total (r : Row) : sumQ ((sumDuplicates r).map Prod.snd) = sumQ (r.map Prod.snd) := by
  unfold sumDuplicates
  rewrite [List.map_map]
  exact sumQ_fibres_uniq r Prod.fst Prod.snd

theorem db_fold_row_total (r : Row) (bits : Nat) :
    sumQ ((dbFoldRow r bits).map Prod.snd) = sumQ (r.map Prod.snd) := by
  unfold dbFoldRow
  rewrite [sumDuplicates_total, List.map_map]
  rfl

/-- **agreement with `Fp.fold`**: on the row of a count/float fingerprint with setter-stable counts
(integer counts, for the count kind), the database's folded row, cast back to the database's dtype, is the
counts dictionary of the fingerprint folded by partitioning with summed counts -/
theorem db_fold_row_eq_fold_gen (f g : Fp) (b : Nat) (hk : f.kind ≠ .bit)
    (hs : ∀ i ∈ f.idx, coerce f.kind (f.count i) = f.count i) (h : f.fold b 0 .sum = .ok g) :
    (dbFoldRow (fpRow f.kind f) b).map (fun p => (p.1, castVal f.kind p.2)) = g.cnt := by
  have e : fpRow f.kind f = f.idx.map (fun i => (i, f.count i)) :=
    List.map_congr_left fun i hi => by rw [castVal_eq_coerce _ hk, hs i hi]
  obtain ⟨_, _, _, rfl⟩ := (fold_ok_iff f g b 0 .sum).1 h
  rewrite [folded_of_ne_bit f b 0 .sum hk, e]
  unfold dbFoldRow sumDuplicates Fp.tab
  simp only [List.map_map, List.filter_map, Function.comp_def, castVal_eq_coerce _ hk]
  rfl

theorem fpRow_fold (f g : Fp) (b m : Nat) (cm : CountsMethod) (hk : f.kind = .float)
    (h : f.fold b m cm = .ok g) : fpRow .float g = g.cnt := by
  have hk' : f.kind ≠ .bit := by rewrite [hk]; decide
  obtain ⟨_, _, _, rfl⟩ := (fold_ok_iff f g b m cm).1 h
  rewrite [folded_of_ne_bit f b m cm hk']
  exact List.map_congr_left fun j hj => congrArg (Prod.mk j) ((Fp.tab_count _ _ _ _ _ hk' j).trans (if_pos hj))

/-- **store-then-fold = fold-then-store** for one float fingerprint (for floats the cast is the identity) -/
theorem db_fold_row_commutes (f g : Fp) (b : Nat) (hk : f.kind = .float) (h : f.fold b 0 .sum = .ok g) :
    dbFoldRow (fpRow .float f) b = fpRow .float g := by
  have := db_fold_row_eq_fold_gen f g b (by rewrite [hk]; decide) (by intro i _; rewrite [hk]; rfl) h
  rewrite [hk] at this
  exact ((List.map_id _).symm.trans this).trans (fpRow_fold f g b 0 .sum hk h).symm

/-- what a successful `Db.fold` produces: every stored row is folded by `dbFoldRow` (remainders of the
columns, equal columns summed), cast to the source dtype, then to the target dtype -/
theorem db_fold_rows (db d : Db) (a : List Row) (bits : Nat) (k : Option Kind) (nm : Option String)
    (ha : db.array = some a) (h : db.fold bits k nm = .ok d) :
    0 < bits ∧ (∃ n, db.bits = bits * 2 ^ n) ∧ d.bits = bits ∧ d.fpType = k.getD db.fpType ∧
    d.level = db.level ∧
    d.array = some (a.map (fun r => ((dbFoldRow r bits).map (fun p => (p.1, castVal db.fpType p.2))).map
      (fun p => (p.1, castVal (k.getD db.fpType) p.2)))) := by
  unfold Db.fold at h
  rewrite [ha] at h
  simp only [ite_error_eq_ok, pairResult_eq_ok, Bool.not_eq_true', Bool.not_eq_false] at h
  obtain ⟨_, h2, h3⟩ := h
  obtain ⟨hb, hn⟩ := isPow2Multiple_exists h2
  rewrite [fromArray_ok _ _ _ _ _ _ _ ((fromArray_ok_iff ..).1 (congrArg Prod.snd h3))] at h3
  cases (Prod.mk.inj h3).1
  refine ⟨hb, hn, rfl, rfl, rfl, ?_⟩
  simp only [List.map_map, Function.comp_def, dbFoldRow]

/-- **a float database folds to the database of the folded fingerprints**: if the rows are the stored
rows of float fingerprints `fs` and `G f` is the partition/sum fold of each `f`, the folded
database's rows are the stored rows of the `G f` -/
theorem db_fold_commutes (db d : Db) (fs : List Fp) (G : Fp → Fp) (b : Nat) (nm : Option String)
    (hT : db.fpType = .float) (ha : db.array = some (fs.map (fpRow .float)))
    (hk : ∀ f ∈ fs, f.kind = .float) (hG : ∀ f ∈ fs, f.fold b 0 .sum = .ok (G f))
    (h : db.fold b none nm = .ok d) :
    d.bits = b ∧ d.fpType = .float ∧ d.array = some (fs.map (fun f => fpRow .float (G f))) := by
  obtain ⟨_, _, e1, e2, _, e3⟩ := db_fold_rows db d _ b none nm ha h
  refine ⟨e1, by rewrite [e2, hT]; rfl, ?_⟩
  rewrite [e3, hT, List.map_map]
  refine congrArg some (List.map_congr_left fun f hf => ?_)
  simp only [Function.comp_def, Option.getD_none, List.map_map]
  rewrite [db_fold_row_commutes f (G f) b (hk f hf) (hG f hf)]
  simp [castVal]

/-- acceptance of a database fold (database without property columns) -/
theorem db_fold_exists (db : Db) (a : List Row) (bits : Nat) (k : Option Kind) (nm : Option String)
    (ha : db.array = some a) (hp : db.props = []) (hb : 0 < bits) (hn : ∃ n, db.bits = bits * 2 ^ n) :
    ∃ d, db.fold bits k nm = .ok d := by
  have hle : ¬ bits > db.bits := by
    obtain ⟨n, hn⟩ := hn
    rewrite [hn]
    exact Nat.not_lt.2 (Nat.le_mul_of_pos_right bits (Nat.pow_pos (by decide)))
  unfold Db.fold
  rewrite [ha]
  simp only [ite_error_eq_ok, pairResult_eq_ok, Bool.not_eq_true', Bool.not_eq_false]
  exact ⟨_, hle, (isPow2Multiple_iff _ _ hb).2 hn, fromArray_ok _ _ _ _ _ _ _ (by rewrite [hp]; intro c hc; cases hc)⟩

/-! ## the refusal guards of the source

`Gen.foldGuard` / `Gen.dbFoldGuard` are translated test by test from the leading `if …: raise …` statements of
`Fingerprint.fold` and `FingerprintDatabase.fold` (which test, in which order, which exception class); `pow2 a b` stands for
the float test `np.log2(a / b).is_integer()`, read as "a is b times a power of two" (`isPow2Multiple`, see `isPow2Multiple_iff`). -/

/-- error enum of the generated guards ↦ the model's -/
def guardErr : Gen.GuardErr → Err
  | .bitsValue => .bitsValue | .option => .option | .invalidFp => .invalidFp | .counts => .counts
  | .value => .value | .type => .type | .key => .key | .index => .index

/-- the model of `Fingerprint.fold` refuses exactly when the source's guards do, with the same exception, and succeeds otherwise -/
theorem fold_guard (f : Fp) (bits method : Nat) (cm : CountsMethod) :
    match Gen.foldGuard isPow2Multiple f.bits bits method with
    | some e => f.fold bits method cm = .error (guardErr e)
    | none => ∃ g, f.fold bits method cm = .ok g := by
  rewrite [fold_eq]
  unfold Gen.foldGuard
  by_cases h1 : bits > f.bits
  · simp [h1, guardErr]
  · by_cases h2 : isPow2Multiple f.bits bits = true
    · by_cases h3 : method = 0
      · simp [h1, h2, h3]
      · by_cases h4 : method = 1
        · simp [h1, h2, h4]
        · simp [h1, h2, h3, h4, guardErr]
    · simp [h1, h2, guardErr]

/-- `FingerprintDatabase.fold` on a database that holds a matrix: when the source's guards refuse, the model refuses with the same
exception (nothing is said for the case that they pass) -/
theorem dbFold_guard (db : Db) (a : List (List (Nat × Rat))) (ha : db.array = some a) (bits : Nat) (k : Option Kind) (nm : Option String) :
    match Gen.dbFoldGuard isPow2Multiple db.bits bits with
    | some e => db.fold bits k nm = .error (guardErr e)
    | none => True := by
  unfold Gen.dbFoldGuard Db.fold
  by_cases h1 : bits > db.bits
  · simp [ha, h1, guardErr]
  · by_cases h2 : isPow2Multiple db.bits bits = true
    · simp [h1, h2]
    · simp [ha, h1, h2, guardErr]

/-! ## non-vacuity: concrete fingerprints satisfying the hypotheses above -/

section Examples

/-- bit, float and count fingerprints of length 8 on the positions 1, 3, 5, 6 -/
def exBit : Fp := ⟨.bit, 8, 5, [1, 3, 5, 6], []⟩
def exFloat : Fp := ⟨.float, 8, 5, [1, 3, 5, 6], [(1, 2), (3, 1), (5, 4), (6, 3)]⟩
def exCount : Fp := ⟨.count, 8, 5, [1, 3, 5, 6], [(1, 2), (3, 1), (5, 4), (6, 3)]⟩

theorem exBit_wf : exBit.WF := ⟨by decide, by decide, fun _ => rfl, fun h => (h rfl).elim⟩
theorem exFloat_wf : exFloat.WF := ⟨by decide, by decide, by decide, fun _ => by decide⟩
theorem exCount_wf : exCount.WF := ⟨by decide, by decide, by decide, fun _ => by decide⟩

theorem exCount_int : ∀ i ∈ exCount.idx, truncQ (exCount.count i) = exCount.count i := by
  decide +kernel

theorem ex_folds (f : Fp) (hf : f.bits = 8) (m : Nat) (hm : m = 0 ∨ m = 1) (cm : CountsMethod) :
    ∃ g₁ g₂ g, f.fold 4 m cm = .ok g₁ ∧ g₁.fold 2 m cm = .ok g₂ ∧ f.fold 2 m cm = .ok g := by
  obtain ⟨g₁, h₁⟩ := fold_eq_of f 4 m cm (by decide) ⟨1, by rw [hf]⟩ hm
  obtain ⟨g₂, h₂⟩ := fold_eq_of g₁ 2 m cm (by decide) ⟨1, by rw [(fold_ok _ _ _ _ _ h₁).2.1]⟩ hm
  obtain ⟨g, h⟩ := fold_eq_of f 2 m cm (by decide) ⟨2, by rw [hf]⟩ hm
  exact ⟨g₁, g₂, g, h₁, h₂, h⟩

/-- `fold_wf`, `fold_idx_lt`, `fold_count_bit`, `fold_maps_*`: a bit fingerprint, compression -/
example : ∃ g, exBit.fold 4 1 .sum = .ok g ∧ g.WF ∧ g.idx = [0, 1, 2, 3] ∧
    (exBit.unfoldMap 4 1).map Prod.fst = g.idx := by
  obtain ⟨g, _, _, hg, _, _⟩ := ex_folds exBit rfl 1 (.inr rfl) .sum
  exact ⟨g, hg, fold_wf exBit g 4 1 .sum exBit_wf hg, by rewrite [(fold_ok _ _ _ _ _ hg).2.2.2]; decide,
    fold_maps_keys exBit g 4 1 .sum hg⟩

/-- … and partitioning: positions 1 and 5 collide -/
example : ∃ g, exBit.fold 4 0 .sum = .ok g ∧ g.WF ∧ g.idx = [1, 2, 3] ∧
    exBit.unfoldMap 4 0 = [(1, [1, 5]), (2, [6]), (3, [3])] ∧
    exBit.foldMap 4 0 = [(1, 1), (3, 3), (5, 1), (6, 2)] := by
  obtain ⟨g, _, _, hg, _, _⟩ := ex_folds exBit rfl 0 (.inl rfl) .sum
  exact ⟨g, hg, fold_wf exBit g 4 0 .sum exBit_wf hg, by rewrite [(fold_ok _ _ _ _ _ hg).2.2.2]; rfl, rfl, rfl⟩

/-- `fold_self_idx` on the running example -/
example : ∃ g, exBit.fold 8 0 .sum = .ok g ∧ g.idx = exBit.idx := by
  obtain ⟨g, hg⟩ := fold_eq_of exBit 8 0 .sum (by decide) ⟨0, by decide⟩ (.inl rfl)
  exact ⟨g, hg, fold_self_idx exBit g 0 .sum exBit_wf hg⟩

/-- `fold_wf`, `fold_count`, `fold_total`: a float fingerprint -/
example : ∃ g, exFloat.fold 4 0 .sum = .ok g ∧ g.WF ∧
    (∀ j ∈ g.idx, g.count j = sumQ ((preimage exFloat 4 0 j).map exFloat.count)) ∧
    (∀ j, j ∉ g.idx → g.count j = 0) ∧
    sumQ (g.idx.map g.count) = sumQ (exFloat.idx.map exFloat.count) := by
  obtain ⟨g, _, _, hg, _, _⟩ := ex_folds exFloat rfl 0 (.inl rfl) .sum
  exact ⟨g, hg, fold_wf exFloat g 4 0 .sum exFloat_wf hg,
    fun j hj => fold_count_mem exFloat g 4 0 .sum (by decide) hg j hj,
    fun j hj => fold_count_not_mem exFloat g 4 0 .sum (by decide) hg j hj,
    fold_total exFloat g 4 0 rfl hg⟩

/-- `fold_total_count`, `fold_count_int`: a count fingerprint with integer counts -/
example : ∃ g, exCount.fold 4 1 .sum = .ok g ∧ g.WF ∧
    sumQ (g.idx.map g.count) = sumQ (exCount.idx.map exCount.count) ∧
    (∀ j ∈ g.idx, truncQ (g.count j) = g.count j) := by
  obtain ⟨g, _, _, hg, _, _⟩ := ex_folds exCount rfl 1 (.inr rfl) .sum
  exact ⟨g, hg, fold_wf exCount g 4 1 .sum exCount_wf hg,
    fold_total_count exCount g 4 1 rfl exCount_int hg, fold_count_int exCount g 4 1 rfl exCount_int hg⟩

/-- `fold_fold_idx`, `fold_fold_bit`: 8 → 4 → 2 against 8 → 2, both methods -/
example (m : Nat) (hm : m = 0 ∨ m = 1) :
    ∃ g₁ g₂ g, exBit.fold 4 m .sum = .ok g₁ ∧ g₁.fold 2 m .sum = .ok g₂ ∧ exBit.fold 2 m .sum = .ok g ∧
      g₂.idx = g.idx ∧ g₂ = g := by
  obtain ⟨g₁, g₂, g, h₁, h₂, h⟩ := ex_folds exBit rfl m hm .sum
  exact ⟨g₁, g₂, g, h₁, h₂, h, (fold_fold_idx exBit g₁ g₂ g 4 2 m .sum .sum .sum h₁ h₂ h).2.2.2,
    fold_fold_bit exBit g₁ g₂ g 4 2 m .sum .sum .sum rfl h₁ h₂ h⟩

/-- `fold_fold_counts`, `fold_fold_eq`: float -/
example (m : Nat) (hm : m = 0 ∨ m = 1) :
    ∃ g₁ g₂ g, exFloat.fold 4 m .sum = .ok g₁ ∧ g₁.fold 2 m .sum = .ok g₂ ∧ exFloat.fold 2 m .sum = .ok g ∧
      (∀ x, g₂.count x = g.count x) ∧ g₂ = g := by
  obtain ⟨g₁, g₂, g, h₁, h₂, h⟩ := ex_folds exFloat rfl m hm .sum
  exact ⟨g₁, g₂, g, h₁, h₂, h, fold_fold_counts exFloat g₁ g₂ g 4 2 m rfl h₁ h₂ h,
    fold_fold_eq exFloat g₁ g₂ g 4 2 m rfl h₁ h₂ h⟩

/-- `fold_fold_eq_count`: count with integer counts -/
example (m : Nat) (hm : m = 0 ∨ m = 1) :
    ∃ g₁ g₂ g, exCount.fold 4 m .sum = .ok g₁ ∧ g₁.fold 2 m .sum = .ok g₂ ∧ exCount.fold 2 m .sum = .ok g ∧
      g₂ = g := by
  obtain ⟨g₁, g₂, g, h₁, h₂, h⟩ := ex_folds exCount rfl m hm .sum
  exact ⟨g₁, g₂, g, h₁, h₂, h, fold_fold_eq_count exCount g₁ g₂ g 4 2 m rfl exCount_int h₁ h₂ h⟩

/-- a one-row float database holding `exFloat` -/
def exDb : Db :=
  { fpType := .float, level := 5, name := none, array := some [fpRow .float exFloat], bits := 8,
    fpNames := [none], namesMap := [(none, [0])], props := [] }

/-- `db_fold_row_commutes`, `db_fold_commutes` -/
example : ∃ g d, exFloat.fold 4 0 .sum = .ok g ∧ exDb.fold 4 none none = .ok d ∧
    d.bits = 4 ∧ d.array = some [fpRow .float g] ∧ (dbFoldRow (fpRow .float exFloat) 4).map Prod.fst = [1, 2, 3] := by
  obtain ⟨g, _, _, hg, _, _⟩ := ex_folds exFloat rfl 0 (.inl rfl) .sum
  obtain ⟨d, hd⟩ := db_fold_exists exDb [fpRow .float exFloat] 4 none none rfl rfl (by decide) ⟨1, by decide⟩
  have := db_fold_commutes exDb d [exFloat] (fun _ => g) 4 none rfl rfl
    (List.forall_mem_singleton.2 rfl) (List.forall_mem_singleton.2 hg) hd
  refine ⟨g, d, hg, hd, this.1, this.2.2, ?_⟩
  rewrite [db_fold_row_cols]
  decide

/-! ### the hypotheses are needed -/

/-- `fold_wf` needs the bound of the original: compression of a stray position leaves the range -/
example : ∃ f g : Fp, f.fold 4 1 .sum = .ok g ∧ ¬ g.WF := by
  obtain ⟨g, hg⟩ := fold_eq_of ⟨.bit, 8, 0, [9], []⟩ 4 1 .sum (by decide) ⟨1, by decide⟩ (.inr rfl)
  obtain ⟨_, _, _, rfl⟩ := (fold_ok_iff _ g 4 1 .sum).1 hg
  exact ⟨_, _, hg, fun hwf => absurd (hwf.2.1 4 (by decide)) (by decide)⟩

/-- `fold_total_count` needs integer counts: the counts setter truncates the fibre sum.  (A count
fingerprint made by the constructors always has integer counts; this one is well formed in the
sense of `Fp.WF` only.) -/
def exHalf : Fp := ⟨.count, 2, 0, [1], [(1, 1/2)]⟩
theorem exHalf_wf : exHalf.WF := ⟨by decide, by decide, by decide, fun _ => by decide⟩

example : ∃ g, exHalf.fold 2 0 .sum = .ok g ∧
    sumQ (g.idx.map g.count) ≠ sumQ (exHalf.idx.map exHalf.count) := by
  obtain ⟨g, hg⟩ := fold_eq_of exHalf 2 0 .sum (by decide) ⟨0, by decide⟩ (.inl rfl)
  obtain ⟨_, _, _, rfl⟩ := (fold_ok_iff _ g 2 0 .sum).1 hg
  exact ⟨_, hg, by decide +kernel⟩

end Examples

end E3fpVerif.Props.C07
