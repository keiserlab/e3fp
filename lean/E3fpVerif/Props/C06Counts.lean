import E3fpVerif.Model.MetricsCounts
import E3fpVerif.Props.C06
/-!
# C06 (counts) — on 0/1 rows every measure is its closed form in `|A|`, `|B|`, `|A ∩ B|`

The definitions of `Model/Metrics.lean` evaluated on two rows whose stored values are all 1 equal the
closed forms of `Model/MetricsCounts.lean` at the rows' three counts.  The correspondence check uses the
closed forms (driver op `met.counts`) for rows with more than 2^24 on-bits, where single-precision
accumulation in the implementation would silently lose the intersection count.
-/
namespace E3fpVerif.Props.C06Counts
open E3fpVerif E3fpVerif.C06L E3fpVerif.Props.C06

theorem tanimoto_counts (x y : Row) : tanimotoDef x y = tanimotoC (countsOf x y) := by
  unfold tanimotoC countsOf; rfl

theorem dice_counts (x y : Row) : diceDef x y = diceC (countsOf x y) := by
  unfold diceC countsOf; rfl

/-- Soergel of 0/1 rows is the Tanimoto closed form -/
theorem soergel_counts (x y : Row) (hx : BinaryRow x) (hy : BinaryRow y) :
    soergelDef x y = tanimotoC (countsOf x y) :=
  (soergel_binary x y hx hy).trans (tanimoto_counts x y)

theorem cosine_counts (x y : Row) (hx : BinaryRow x) (hy : BinaryRow y) :
    cosineDef x y = cosineC (countsOf x y) := by
  unfold cosineDef cosineC countsOf
  rw [Props.C06.dotQ_binary x y hx hy, Props.C06.dotQ_binary x x hx hx, Props.C06.dotQ_binary y y hy hy,
    interCount_self, interCount_self]

theorem pearson_counts (n : Nat) (x y : Row) (hx : BinaryRow x) (hy : BinaryRow y) :
    pearsonDef n x y = pearsonC n (countsOf x y) := by
  unfold pearsonDef pearsonC countsOf
  simp only [Props.C06.dotQ_binary x y hx hy, Props.C06.dotQ_binary x x hx hx, Props.C06.dotQ_binary y y hy hy,
    interCount_self, Props.C06.rowSum_binary x hx, Props.C06.rowSum_binary y hy]

/-- matrix Tanimoto, Dice and cosine on 0/1 rows are the closed forms as well -/
theorem arr_counts (x y : Row) (hx : BinaryRow x) (hy : BinaryRow y) :
    arrTanimoto x y = tanimotoC (countsOf x y) ∧ arrDice x y = diceC (countsOf x y)
      ∧ arrCosine x y = cosineC (countsOf x y) :=
  ⟨(arrTanimoto_eq_def x y hx hy).trans (tanimoto_counts x y), (arrDice_eq_def x y hx hy).trans (dice_counts x y),
    (arrCosine_eq_def x y).trans (cosine_counts x y hx hy)⟩

/-- Tanimoto and Dice only see the counts: rows with equal counts score alike -/
theorem counts_determine (x y x' y' : Row) (h : countsOf x y = countsOf x' y') :
    tanimotoDef x y = tanimotoDef x' y' ∧ diceDef x y = diceDef x' y' := by
  rewrite [tanimoto_counts, tanimoto_counts, dice_counts, dice_counts, h]; exact ⟨rfl, rfl⟩

/-- `c ≤ a`, whatever the rows -/
theorem counts_le (x y : Row) : (countsOf x y).c ≤ (countsOf x y).a := interCount_le_left _ _

example : countsOf [(1, 1), (2, 1)] [(2, 1), (5, 1)] = ⟨2, 2, 1⟩ := by decide +kernel
example : tanimotoC ⟨2, 2, 1⟩ = 1 / 3 := by decide +kernel
example : cosineDef [(1, 1), (2, 1)] [(2, 1), (5, 1)] = (1, 4) := by
  rewrite [cosine_counts _ _ ex_rows_binary.1 ex_rows_binary.2]
  decide +kernel

end E3fpVerif.Props.C06Counts
