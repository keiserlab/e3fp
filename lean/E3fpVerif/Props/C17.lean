import E3fpVerif.Model.Fprint
import E3fpVerif.Lemmas.Uniq
import E3fpVerif.Lemmas.FpAux
/-!
# C17 — conversions between the classes agree

`from_fingerprint` keeps the support and stores `get_count` through the target's setter (closed form:
`fromFingerprint_eq`); the classes built from one index list have the same support and domain.
-/
namespace E3fpVerif.Props.C17
open E3fpVerif

/-- converting to the bit kind keeps exactly the indexed positions -/
theorem to_bit_support (f g : Fp) (h : fromFingerprint .bit f = .ok g) : g.idx = uniq f.idx ∧ g.kind = .bit := by
  obtain ⟨_, h⟩ := ite_error_eq_ok.1 h
  cases h
  exact ⟨rfl, rfl⟩

/-- `CountFingerprint(indices=ids)` : support = distinct ids, count = multiplicity -/
theorem count_of_ids (ids : List Nat) (bits : Nat) (lvl : Int) (g : Fp)
    (h : mkCount .count (some ids) none bits lvl = .ok g) :
    g.idx = uniq ids ∧ g.kind = .count ∧ ∀ j, g.count j = ((ids.count j : Nat) : Rat) :=
  mkCount_ids .count (by decide) ids bits lvl g h

/-- the same holds for the float class -/
theorem float_of_ids (ids : List Nat) (bits : Nat) (lvl : Int) (g : Fp)
    (h : mkCount .float (some ids) none bits lvl = .ok g) :
    g.idx = uniq ids ∧ g.kind = .float ∧ ∀ j, g.count j = ((ids.count j : Nat) : Rat) :=
  mkCount_ids .float (by decide) ids bits lvl g h

/-- the bit and count fingerprints of one index list have the same support, and the bit view is the
indicator of a positive count -/
theorem bit_count_same_support (ids : List Nat) (bits : Nat) (lvl : Int) (g b : Fp)
    (hg : mkCount .count (some ids) none bits lvl = .ok g) (hb : mkBit ids bits lvl = .ok b) :
    b.idx = g.idx ∧ ∀ j, b.count j = if 0 < g.count j then 1 else 0 := by
  obtain ⟨hgi, _, hgc⟩ := count_of_ids ids bits lvl g hg
  obtain ⟨_, hb⟩ := ite_error_eq_ok.1 hb
  cases hb
  refine ⟨hgi.symm, fun j => ?_⟩
  rewrite [hgc j, Fp.count_of_bit _ rfl]
  simp only [mem_uniq]
  by_cases hj : j ∈ ids
  · rw [if_pos hj, if_pos (Rat.natCast_pos.2 (List.count_pos_iff.2 hj))]
  · rewrite [if_neg hj, List.count_eq_zero_of_not_mem hj]; simp

/-- both constructors accept or reject the same index lists -/
theorem bit_count_same_domain (ids : List Nat) (bits : Nat) (lvl : Int) :
    (∃ b, mkBit ids bits lvl = .ok b) ↔ (∃ g, mkCount .count (some ids) none bits lvl = .ok g) := by
  unfold mkBit mkCount
  by_cases hc : ids.any (fun i => decide (i ≥ bits)) = true
  · simp [hc]
  · exact ⟨fun _ => ⟨_, if_neg hc⟩, fun _ => ⟨_, if_neg hc⟩⟩

example : mkCount .count (some [3, 1, 3]) none 8 0 = .ok ⟨.count, 8, 0, [1, 3], [(1, 1), (3, 2)]⟩ := rfl
example : mkBit [3, 1, 3] 8 0 = .ok ⟨.bit, 8, 0, [1, 3], []⟩ := rfl
example : ∃ g, mkCount .count (some [3, 1, 3]) none 8 0 = .ok g ∧ g.count 3 = 2 :=
  have h := mkCount_some_none_eq .count [3, 1, 3] 8 0 (by decide)
  ⟨_, h, ((count_of_ids [3, 1, 3] 8 0 _ h).2.2 3).trans (by decide)⟩

/-- conversion of a well-formed fingerprint with positive counts always succeeds -/
theorem convert_ok (k : Kind) (f : Fp) (hwf : f.WF) (hpos : ∀ p ∈ f.cnt, 0 < p.2) :
    ∃ g, fromFingerprint k f = .ok g := by
  by_cases hk : k = .bit
  · subst hk
    exact ⟨_, mkBit_eq f.idx f.bits f.level hwf.2.1⟩
  · exact ⟨_, fromFingerprint_eq k hk f hwf hpos⟩

/-- conversion to any class keeps the support, the length and the level, and lands in the target class -/
theorem convert_support (k : Kind) (f g : Fp) (hwf : f.WF) (hpos : ∀ p ∈ f.cnt, 0 < p.2)
    (h : fromFingerprint k f = .ok g) :
    g.idx = f.idx ∧ g.kind = k ∧ g.bits = f.bits ∧ g.level = f.level ∧ g.WF := by
  by_cases hk : k = .bit
  · subst hk
    have : fromFingerprint .bit f = mkBit f.idx f.bits f.level := rfl
    rewrite [this, mkBit_eq f.idx f.bits f.level hwf.2.1, uniq_of_strictAsc _ hwf.1] at h
    cases h
    exact ⟨rfl, rfl, rfl, rfl, hwf.1, hwf.2.1, fun _ => rfl, fun e => absurd rfl e⟩
  · rewrite [fromFingerprint_eq k hk f hwf hpos] at h
    cases h
    exact ⟨rfl, rfl, rfl, rfl, Fp.tab_wf k _ _ _ _ hk hwf.1 hwf.2.1⟩

/-- conversion into a count or float class stores the source's `get_count` value through the target's
value setter, at every position -/
theorem convert_values (k : Kind) (hk : k ≠ .bit) (f g : Fp) (hwf : f.WF) (hpos : ∀ p ∈ f.cnt, 0 < p.2)
    (h : fromFingerprint k f = .ok g) (i : Nat) : g.count i = coerce k (f.count i) := by
  rewrite [fromFingerprint_eq k hk f hwf hpos] at h
  cases h
  refine Fp.tab_count_of_zero k _ _ _ _ hk i fun hi => ?_
  rw [Fp.count_of_not_mem f hwf i hi, coerce_zero]

/-- bit → count / float : every set bit becomes a count of 1, nothing else is stored -/
theorem bit_to_count_values (k : Kind) (hk : k ≠ .bit) (f g : Fp) (hfk : f.kind = .bit) (hwf : f.WF)
    (h : fromFingerprint k f = .ok g) (i : Nat) :
    g.idx = f.idx ∧ g.count i = (if i ∈ f.idx then 1 else 0) ∧ g.count i = f.count i := by
  have hpos : ∀ p ∈ f.cnt, 0 < p.2 := by intro p hp; rewrite [hwf.2.2.1 hfk] at hp; cases hp
  have hc := Fp.count_of_bit f hfk i
  have hv : g.count i = f.count i := by
    rw [convert_values k hk f g hwf hpos h i, hc, apply_ite (coerce k), coerce_one, coerce_zero]
  exact ⟨(convert_support k f g hwf hpos h).1, hv.trans hc, hv⟩

/-- count → float (indeed anything → float) keeps every count -/
theorem to_float_values (f g : Fp) (hwf : f.WF) (hpos : ∀ p ∈ f.cnt, 0 < p.2)
    (h : fromFingerprint .float f = .ok g) (i : Nat) : g.idx = f.idx ∧ g.count i = f.count i :=
  ⟨(convert_support .float f g hwf hpos h).1, convert_values .float (by simp) f g hwf hpos h i⟩

/-- float → count truncates every value toward zero (`int(v)`); the support is kept even where the
truncated value is 0 -/
theorem to_count_values (f g : Fp) (hwf : f.WF) (hpos : ∀ p ∈ f.cnt, 0 < p.2)
    (h : fromFingerprint .count f = .ok g) (i : Nat) : g.idx = f.idx ∧ g.count i = truncQ (f.count i) :=
  ⟨(convert_support .count f g hwf hpos h).1, convert_values .count (by simp) f g hwf hpos h i⟩

/-- anything → bit : the bit view is the indicator of the support -/
theorem to_bit_values (f g : Fp) (hwf : f.WF) (hpos : ∀ p ∈ f.cnt, 0 < p.2)
    (h : fromFingerprint .bit f = .ok g) (i : Nat) :
    g.idx = f.idx ∧ g.count i = (if i ∈ f.idx then 1 else 0) := by
  obtain ⟨hi, hk, _⟩ := convert_support .bit f g hwf hpos h
  exact ⟨hi, by rw [Fp.count_of_bit g hk, hi]⟩

/-- bit → count → bit is the identity -/
theorem bit_count_bit (k : Kind) (hk : k ≠ .bit) (f g : Fp) (hfk : f.kind = .bit) (hwf : f.WF)
    (h : fromFingerprint k f = .ok g) : fromFingerprint .bit g = .ok f := by
  have hpos : ∀ p ∈ f.cnt, 0 < p.2 := by intro p hp; rewrite [hwf.2.2.1 hfk] at hp; cases hp
  rewrite [fromFingerprint_eq k hk f hwf hpos] at h
  cases h
  exact mkBit_self f hfk hwf

def exB : Fp := ⟨.bit, 8, 5, [1, 3], []⟩
def exC : Fp := ⟨.count, 8, 5, [1, 3], [(1, 2), (3, 1)]⟩
theorem exB_wf : exB.WF := ⟨by decide, by decide, fun _ => rfl, fun h => absurd rfl h⟩
theorem exC_wf : exC.WF := ⟨by decide, by decide, by decide, fun _ => by decide⟩
theorem exC_pos : ∀ p ∈ exC.cnt, 0 < p.2 := by
  decide

example : ∃ g, fromFingerprint .float exC = .ok g ∧ g.idx = [1, 3] ∧ g.count 1 = exC.count 1 := by
  obtain ⟨g, hg⟩ := convert_ok .float exC exC_wf exC_pos
  exact ⟨g, hg, (to_float_values exC g exC_wf exC_pos hg 1).1, (to_float_values exC g exC_wf exC_pos hg 1).2⟩

example : ∃ g, fromFingerprint .count exB = .ok g ∧ g.idx = [1, 3] ∧ g.count 3 = 1 := by
  obtain ⟨g, hg⟩ := convert_ok .count exB exB_wf (fun _ h => nomatch h)
  have := bit_to_count_values .count (by decide) exB g rfl exB_wf hg 3
  exact ⟨g, hg, this.1, this.2.1.trans (if_pos (by decide))⟩

example : ∃ g, fromFingerprint .bit exC = .ok g ∧ g.idx = [1, 3] := by
  obtain ⟨g, hg⟩ := convert_ok .bit exC exC_wf exC_pos
  exact ⟨g, hg, (convert_support .bit exC g exC_wf exC_pos hg).1⟩

end E3fpVerif.Props.C17
