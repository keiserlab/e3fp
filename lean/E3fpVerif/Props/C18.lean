import E3fpVerif.Lemmas.MonoRelabel
import E3fpVerif.Props.C12
/-!
# C18 — only bonded heavy atoms' positions matter

A run reads its geometry only on the retained atoms (`runFp_agree`, `frame`); hydrogens, and under
`exclude_floating` unbonded heavy atoms, are not retained; deleting them renumbers the retained atoms by a
strictly monotone map (`MonoRel`) and leaves every fingerprint as it was (`delete_floating_fingerprint`).
-/
namespace E3fpVerif.Props.C18
open E3fpVerif

/-- a retained index is the index of a heavy atom (so, with distinct indices, hydrogens are never retained) -/
theorem hydrogens_not_retained (o : Opts) (m : MolG) (a : Nat) (h : a ∈ retained o m) :
    ∃ x ∈ m.atoms, x.idx = a ∧ x.atomicNum > 1 := by
  unfold retained at h
  simp only at h
  split at h
  · obtain ⟨x, hf, rfl⟩ := List.mem_map.1 h
    obtain ⟨hx, hc⟩ := List.mem_filter.1 hf
    exact ⟨x, hx, rfl, of_decide_eq_true (Bool.and_eq_true_iff.1 hc).1⟩
  · obtain ⟨x, hf, rfl⟩ := List.mem_map.1 h
    obtain ⟨hx, hc⟩ := List.mem_filter.1 hf
    exact ⟨x, hx, rfl, of_decide_eq_true hc⟩

/-! ## the frame property: only decisions about retained atoms are ever consulted -/

/-- two geometries agree on a set of atoms: every shell-membership test between two of them, and
every stereo call whose centre and neighbour atoms are among them, give the same answer -/
def GeoAgree (atoms : List Nat) (g₁ g₂ : Geo) : Prop :=
  (∀ k a b, a ∈ atoms → b ∈ atoms → g₁.within k a b = g₂.within k a b) ∧
  (∀ c tuples, c ∈ atoms → (∀ t ∈ tuples, t.2.2 ∈ atoms) → g₁.stereo c tuples = g₂.stereo c tuples)

theorem GeoAgree.refl (atoms : List Nat) (g : Geo) : GeoAgree atoms g g :=
  ⟨fun _ _ _ _ _ => rfl, fun _ _ _ _ => rfl⟩

theorem GeoAgree.symm {atoms : List Nat} {g₁ g₂ : Geo} (h : GeoAgree atoms g₁ g₂) : GeoAgree atoms g₂ g₁ :=
  ⟨fun k a b ha hb => (h.1 k a b ha hb).symm, fun c t hc ht => (h.2 c t hc ht).symm⟩

/-- the run only consults the geometry on retained atoms -/
theorem runFp_agree (o : Opts) (m : MolG) (g₁ g₂ : Geo) (hg : GeoAgree (retained o m) g₁ g₂) :
    runFp o m g₁ = runFp o m g₂ :=
  runFp_congr (fun k a ha b hb => hg.1 k a b ha hb) (fun prev a ha nb hnb =>
    atomTuples_congr o m g₁ g₂ prev a nb (fun l hl => hg.2 a l ha (fun t ht => (hnb _ (hl t ht)).1)))

variable {α : Type} [Scalar α]

theorem ofCoords_agree (mult : α) (X X' : Nat → V3 α) (atoms : List Nat) (h : ∀ a ∈ atoms, X a = X' a) :
    GeoAgree atoms (Geo.ofCoords mult X) (Geo.ofCoords mult X') := by
  constructor
  · intro k a b ha hb
    simp only [Geo.ofCoords, h a ha, h b hb]
  · intro c tuples hc ht
    simp only [Geo.ofCoords]
    refine congrArg _ (List.map_congr_left fun t htm => ?_)
    rw [h c hc, h _ (ht t htm)]

/-- **frame theorem**: the coordinates of atoms that are not retained (hydrogens; unbonded heavy
atoms when exclusion is on) are never read -/
theorem frame (o : Opts) (m : MolG) (mult : α) (X X' : Nat → V3 α) (h : ∀ a ∈ retained o m, X a = X' a) :
    runFp o m (Geo.ofCoords mult X) = runFp o m (Geo.ofCoords mult X') :=
  runFp_agree o m _ _ (ofCoords_agree mult X X' (retained o m) h)

/-- hence the fingerprint at any level, folding and mask does not depend on them either -/
theorem frame_fingerprint (o : Opts) (m : MolG) (mult : α) (X X' : Nat → V3 α) (h : ∀ a ∈ retained o m, X a = X' a)
    (req : Option Int) (bits : Option Nat) (mask : List Nat) :
    (runFp o m (Geo.ofCoords mult X) >>= fun s => fingerprintAt o s req bits mask)
      = (runFp o m (Geo.ofCoords mult X') >>= fun s => fingerprintAt o s req bits mask) := by
  rw [frame o m mult X X' h]

/-! ### non-vacuity of the frame statements -/

/-- a test molecule: C(0)–O(1)–H(2) and an unbonded heavy atom 3 -/
def exMol : MolG :=
  { atoms := [⟨0, 6, 1, [1], [1]⟩, ⟨1, 8, 2, [2], [2]⟩, ⟨2, 1, 1, [3], [3]⟩, ⟨3, 17, 0, [4], [4]⟩],
    bonds := [(0, 1, 1), (1, 2, 1)] }
def exOpts (excl : Bool) : Opts :=
  { bits := 1024, level := 2, stereo := true, counts := false, includeDisconnected := true,
    rdkitInvariants := false, excludeFloating := excl, removeDup := true }

theorem exMol_retained : retained (exOpts true) exMol = [0, 1] := by decide +kernel

example : retained (exOpts true) exMol = [0, 1] := exMol_retained
example : retained (exOpts false) exMol = [0, 1, 3] := by decide +kernel

/-- two geometries that differ (on atoms 2, 3) but agree on the retained atoms `[0, 1]` -/
def exG₁ : Geo := { within := fun _ _ _ => true, stereo := fun _ t => t.map (fun _ => 0) }
def exG₂ : Geo :=
  { within := fun _ a b => a ≤ 1 && b ≤ 1, stereo := fun _ t => t.map (fun x => if x.2.2 ≤ 1 then 0 else 1) }

example : GeoAgree (retained (exOpts true) exMol) exG₁ exG₂ ∧ exG₁.within 0 2 3 ≠ exG₂.within 0 2 3 := by
  rewrite [exMol_retained]
  refine ⟨⟨?_, ?_⟩, by decide⟩
  · intro k a b ha hb
    simp only [List.mem_cons, List.not_mem_nil, or_false] at ha hb
    rcases ha with rfl | rfl <;> rcases hb with rfl | rfl <;> rfl
  · intro c tuples _ ht
    simp only [exG₁, exG₂]
    apply List.map_congr_left
    intro t htm
    have := ht t htm
    simp only [List.mem_cons, List.not_mem_nil, or_false] at this
    rcases this with h | h <;> simp [h]

/-- the hypothesis of `frame` is satisfiable by coordinates that really differ: move the hydrogen
(atom 2) and the floating atom (atom 3) anywhere -/
example (X : Nat → V3 α) (p q : V3 α) :
    runFp (exOpts true) exMol (Geo.ofCoords (Scalar.ofNat 2) X)
      = runFp (exOpts true) exMol (Geo.ofCoords (Scalar.ofNat 2) (fun a => if a = 2 then p else if a = 3 then q else X a)) := by
  apply frame
  rewrite [exMol_retained]
  intro a ha
  simp only [List.mem_cons, List.not_mem_nil, or_false] at ha
  rcases ha with rfl | rfl <;> rfl

/-! ## floating atoms -/

/-- with `exclude_floating` and more than one heavy atom, a retained atom is a heavy atom with at
least one bond -/
theorem floating_not_retained (o : Opts) (m : MolG) (a : Nat) (hx : o.excludeFloating = true)
    (hh : ((m.atoms.filter (fun a => a.atomicNum > 1)).map (·.idx)).length > 1) (h : a ∈ retained o m) :
    ∃ x ∈ m.atoms, x.idx = a ∧ x.atomicNum > 1 ∧ x.degree > 0 := by
  unfold retained at h
  simp only [hx, Bool.true_and, decide_eq_true_eq] at h
  rewrite [if_pos hh] at h
  obtain ⟨x, hf, rfl⟩ := List.mem_map.1 h
  obtain ⟨hx, hc⟩ := List.mem_filter.1 hf
  simp only [Bool.and_eq_true, decide_eq_true_eq] at hc
  exact ⟨x, hx, rfl, hc.1, hc.2⟩

/-- the same, read the other way: an atom without bonds whose index is its own is not retained -/
theorem floating_excluded (o : Opts) (m : MolG) (x : AtomInfo) (hx : o.excludeFloating = true)
    (hh : ((m.atoms.filter (fun a => a.atomicNum > 1)).map (·.idx)).length > 1)
    (hu : ∀ y ∈ m.atoms, y.idx = x.idx → y = x) (hd : x.degree = 0) : x.idx ∉ retained o m := by
  intro h
  obtain ⟨y, hy, hi, _, hdeg⟩ := floating_not_retained o m x.idx hx hh h
  rewrite [hu y hy hi, hd] at hdeg
  exact Nat.lt_irrefl 0 hdeg

example : (exOpts true).excludeFloating = true
    ∧ ((exMol.atoms.filter (fun a => a.atomicNum > 1)).map (·.idx)).length > 1
    ∧ 1 ∈ retained (exOpts true) exMol ∧ 3 ∉ retained (exOpts true) exMol := by decide +kernel

theorem heavy_retained (o : Opts) (m : MolG) (hx : o.excludeFloating = false) (x : AtomInfo) (hm : x ∈ m.atoms)
    (hz : x.atomicNum > 1) : x.idx ∈ retained o m := by
  unfold retained
  simp only [hx, Bool.false_and, Bool.false_eq_true, if_false]
  exact List.mem_map.2 ⟨x, List.mem_filter.2 ⟨hm, decide_eq_true hz⟩, rfl⟩

/-- without `exclude_floating`, every heavy atom (bonded or not) is retained and is the centre of a
level-0 shell of the initial state, whose identifier is the hash of its invariants -/
theorem floating_contribute (o : Opts) (m : MolG) (hx : o.excludeFloating = false) :
    (∀ x ∈ m.atoms, x.atomicNum > 1 → x.idx ∈ retained o m) ∧
    ∃ l0, (initState o m (retained o m)).levelShells = [l0] ∧ l0.map (·.atom) = retained o m ∧
      ∀ a ∈ retained o m, ∃ s ∈ l0, s.atom = a ∧ s.ident = initIdent o m a := by
  refine ⟨fun x hm hz => heavy_retained o m hx x hm hz, (genLevel0 o m (retained o m) []).2, rfl,
    genLevel0_atoms o m _ [], ?_⟩
  intro a ha
  rewrite [Rl.genLevel0_eq_map]
  refine ⟨_, List.mem_map_of_mem ha, ?_⟩
  -- the projections reduced first: `rfl` through `gen0ShellT` is slow to check
  dsimp only [Rl.gen0ShellT]
  exact ⟨rfl, rfl⟩

example : (exOpts false).excludeFloating = false ∧ 3 ∈ retained (exOpts false) exMol := by decide +kernel

/-- in the final state of a successful run, level 0 holds one shell per retained atom: every retained
atom (in particular every floating heavy atom when exclusion is off) contributes to the fingerprint -/
theorem runFp_level0 (o : Opts) (m : MolG) (g : Geo) (s : FState) (h : runFp o m g = .ok s) :
    ∃ l0, s.levelShells.head? = some l0 ∧ l0.map (·.atom) = retained o m
      ∧ l0.map (·.ident) = (retained o m).map (initIdent o m) := by
  obtain ⟨_, _, _, rfl⟩ := (runFp_ok_iff o m g s).1 h
  -- the levels after level 0 are appended to the initial state's one level
  obtain ⟨ext, he⟩ := C12.iterate_levelShells_prefix o m g (retained o m) (runFuel o (retained o m))
    (initState o m (retained o m))
  refine ⟨(genLevel0 o m (retained o m) []).2, by rewrite [← he]; rfl, genLevel0_atoms o m _ [], ?_⟩
  rewrite [Rl.genLevel0_eq_map, List.map_map]
  rfl

example : ∃ s, runFp (exOpts false) exMol exG₁ = .ok s :=
  ⟨_, (runFp_ok_iff _ _ _ _).2 ⟨by decide +kernel, by decide +kernel, by decide +kernel, rfl⟩⟩

/-! ## deleting the ignored atoms (the simulation is in `Lemmas/MonoRelabel.lean`) -/

open E3fpVerif.Mono

/-- `(m', g')` is `(m, g)` after a strictly monotone renumbering `π` of the retained atoms (e.g. after
deleting atoms that are not retained): the retained atoms correspond in order, with the same
invariants, bonds and geometric decisions -/
structure MonoRel (o : Opts) (π : Nat → Nat) (m : MolG) (g : Geo) (m' : MolG) (g' : Geo) : Prop where
  /-- `π` is strictly monotone on the retained atoms -/
  mono : ∀ a ∈ retained o m, ∀ b ∈ retained o m, a < b → π a < π b
  retained_eq : retained o m' = (retained o m).map π
  ident_eq : ∀ a ∈ retained o m, initIdent o m' (π a) = initIdent o m a
  conn_eq : ∀ a ∈ retained o m, ∀ b ∈ retained o m, conn m' (π a) (π b) = conn m a b
  bonded_eq : ∀ a ∈ retained o m, ∀ b ∈ retained o m, bonded m' (π a) (π b) = bonded m a b
  /-- bonds of a type the table lacks (`KeyError`) -/
  unknown_eq : (m'.bonds.any (fun e => e.2.2 = 0)) = (m.bonds.any (fun e => e.2.2 = 0))
  within_eq : ∀ k, ∀ a ∈ retained o m, ∀ b ∈ retained o m, g'.within k (π a) (π b) = g.within k a b
  stereo_eq : ∀ c ∈ retained o m, ∀ tuples : List (Nat × Int × Nat), (∀ t ∈ tuples, t.2.2 ∈ retained o m) →
    g'.stereo (π c) (tuples.map (fun t => (t.1, t.2.1, π t.2.2))) = g.stereo c tuples

theorem MonoRel.toLoc {o : Opts} {π : Nat → Nat} {m : MolG} {g : Geo} {m' : MolG} {g' : Geo}
    (h : MonoRel o π m g m' g') : MonoLoc o π (retained o m) m g m' g' :=
  ⟨h.mono, h.ident_eq, h.conn_eq, h.bonded_eq, h.within_eq, h.stereo_eq⟩

theorem MonoRel.inj {o : Opts} {π : Nat → Nat} {m : MolG} {g : Geo} {m' : MolG} {g' : Geo}
    (h : MonoRel o π m g m' g') (a b : Nat) (ha : a ∈ retained o m) (hb : b ∈ retained o m) (he : π a = π b) :
    a = b :=
  (MonoOn.eq_iff h.mono ha hb).1 he

/-- **the run on the renumbered molecule is the renumbered run** (same error, or the same state with
every atom index mapped by `π`: intern table, generator shells, level shells, past substructures) -/
theorem runFp_mono {o : Opts} {π : Nat → Nat} {m : MolG} {g : Geo} {m' : MolG} {g' : Geo}
    (h : MonoRel o π m g m' g') : runFp o m' g' = (runFp o m g).map (FState.monoRelabel π) := by
  have hrun := runFpG_map (FState.monoRelabel π) id (genLevel o m g) (genLevel o m' g') o m m' h.unknown_eq
    (by rw [h.retained_eq, List.length_map]) (fun n => by
      rewrite [← iterate_eq_G, ← iterate_eq_G, h.retained_eq, initState_mono h.toLoc]
      exact (iterate_mono h.toLoc n (initState_in o m (retained o m))).symm)
  rewrite [Except.map_id] at hrun
  rewrite [runFp_eq_G, runFp_eq_G]
  exact hrun.symm

/-- every atom index stored in the final state of a run is a retained atom -/
theorem runFp_in (o : Opts) (m : MolG) (g : Geo) (s : FState) (h : runFp o m g = .ok s) :
    StateIn (retained o m) s := by
  obtain ⟨_, _, _, rfl⟩ := (runFp_ok_iff o m g s).1 h
  exact iterate_in o m g _ (initState_in o m (retained o m))

/-- **deleting the ignored atoms does not change the fingerprint**: under `MonoRel`, the fingerprint of
the renumbered molecule at any level and folding, under the renumbered mask, is that of the original -/
theorem delete_floating_fingerprint {o : Opts} {π : Nat → Nat} {m : MolG} {g : Geo} {m' : MolG} {g' : Geo}
    (h : MonoRel o π m g m' g') (req : Option Int) (bits : Option Nat) (mask : List Nat)
    (hm : ∀ a ∈ mask, a ∈ retained o m) :
    (runFp o m' g' >>= fun s => fingerprintAt o s req bits (mask.map π))
      = (runFp o m g >>= fun s => fingerprintAt o s req bits mask) := by
  rewrite [runFp_mono h]
  cases hr : runFp o m g with
  -- `rfl` would first try to unify the two continuations
  | error e => exact Eq.refl (Except.error e)
  | ok s =>
    show fingerprintAt o (s.monoRelabel π) req bits (mask.map π) = fingerprintAt o s req bits mask
    exact fingerprintAt_map (GShell.monoRelabel π) (fun _ => rfl) o (List.length_map _) rfl req bits mask _
      (mask_relabel h.mono (runFp_in o m g s hr) hm)

theorem delete_floating_fingerprint_nomask {o : Opts} {π : Nat → Nat} {m : MolG} {g : Geo} {m' : MolG} {g' : Geo}
    (h : MonoRel o π m g m' g') (req : Option Int) (bits : Option Nat) :
    (runFp o m' g' >>= fun s => fingerprintAt o s req bits [])
      = (runFp o m g >>= fun s => fingerprintAt o s req bits []) :=
  delete_floating_fingerprint h req bits [] (by intro a ha; cases ha)

/-- the shells themselves correspond: same identifiers and structural ids, renumbered atoms -/
theorem delete_floating_shells {o : Opts} {π : Nat → Nat} {m : MolG} {g : Geo} {m' : MolG} {g' : Geo}
    (h : MonoRel o π m g m' g') (s : FState) (hr : runFp o m g = .ok s) (req : Option Int) (mask : List Nat)
    (hm : ∀ a ∈ mask, a ∈ retained o m) :
    runFp o m' g' = .ok (s.monoRelabel π) ∧
    shellsAt (s.monoRelabel π) req (mask.map π) = (shellsAt s req mask).map (GShell.monoRelabel π) := by
  refine ⟨?_, shellsAt_map (GShell.monoRelabel π) (List.length_map _) rfl req mask _
    (mask_relabel h.mono (runFp_in o m g s hr) hm)⟩
  rewrite [runFp_mono h, hr]; rfl

/-- `MonoRel` from coordinates: if the molecules correspond and the coordinates of corresponding
retained atoms coincide, the two geometric conditions hold (any scalar type) -/
theorem MonoRel.ofCoords {o : Opts} {π : Nat → Nat} {m m' : MolG} (mult : α) (X X' : Nat → V3 α)
    (hmono : ∀ a ∈ retained o m, ∀ b ∈ retained o m, a < b → π a < π b)
    (hret : retained o m' = (retained o m).map π)
    (hident : ∀ a ∈ retained o m, initIdent o m' (π a) = initIdent o m a)
    (hconn : ∀ a ∈ retained o m, ∀ b ∈ retained o m, conn m' (π a) (π b) = conn m a b)
    (hbonded : ∀ a ∈ retained o m, ∀ b ∈ retained o m, bonded m' (π a) (π b) = bonded m a b)
    (hunk : (m'.bonds.any (fun e => e.2.2 = 0)) = (m.bonds.any (fun e => e.2.2 = 0)))
    (hX : ∀ a ∈ retained o m, X' (π a) = X a) :
    MonoRel o π m (Geo.ofCoords mult X) m' (Geo.ofCoords mult X') :=
  -- the geometry of `X'` on the renumbered atoms is the geometry of the coordinates `X' ∘ π`
  have hg := ofCoords_agree mult (X' ∘ π) X (retained o m) hX
  ⟨hmono, hret, hident, hconn, hbonded, hunk, fun k a ha b hb => hg.1 k a b ha hb,
    fun c hc tuples ht => Eq.trans (by simp only [Geo.ofCoords, List.map_map]; rfl) (hg.2 c tuples hc ht)⟩

/-- with coordinates: deleting the ignored atoms (and their coordinates) leaves every fingerprint as it was -/
theorem delete_floating_fingerprint_coords {o : Opts} {π : Nat → Nat} {m m' : MolG} (mult : α) (X X' : Nat → V3 α)
    (hmono : ∀ a ∈ retained o m, ∀ b ∈ retained o m, a < b → π a < π b)
    (hret : retained o m' = (retained o m).map π)
    (hident : ∀ a ∈ retained o m, initIdent o m' (π a) = initIdent o m a)
    (hconn : ∀ a ∈ retained o m, ∀ b ∈ retained o m, conn m' (π a) (π b) = conn m a b)
    (hbonded : ∀ a ∈ retained o m, ∀ b ∈ retained o m, bonded m' (π a) (π b) = bonded m a b)
    (hunk : (m'.bonds.any (fun e => e.2.2 = 0)) = (m.bonds.any (fun e => e.2.2 = 0)))
    (hX : ∀ a ∈ retained o m, X' (π a) = X a) (req : Option Int) (bits : Option Nat) :
    (runFp o m' (Geo.ofCoords mult X') >>= fun s => fingerprintAt o s req bits [])
      = (runFp o m (Geo.ofCoords mult X) >>= fun s => fingerprintAt o s req bits []) :=
  delete_floating_fingerprint_nomask
    (MonoRel.ofCoords mult X X' hmono hret hident hconn hbonded hunk hX) req bits

/-! ### non-vacuity: a molecule, an ignored atom, its deletion -/

/-- C(0)–O(2)=Cl(3) with an ignored atom 1 of atomic number `z` and degree `d`: a hydrogen on the
carbon (`z = 1, d = 1`) or an unbonded heavy atom (`z = 17, d = 0`) -/
def delMol (z d : Nat) (extra : List (Nat × Nat × Nat)) : MolG :=
  { atoms := [⟨0, 6, 1 + d, [1], [1]⟩, ⟨1, z, d, [9], [9]⟩, ⟨2, 8, 2, [2], [2]⟩, ⟨3, 17, 1, [4], [4]⟩],
    bonds := extra ++ [(0, 2, 1), (2, 3, 2)] }

/-- the same molecule with atom 1 deleted: indices 2, 3 shift down to 1, 2 -/
def delMol' : MolG :=
  { atoms := [⟨0, 6, 1, [1], [1]⟩, ⟨1, 8, 2, [2], [2]⟩, ⟨2, 17, 1, [4], [4]⟩],
    bonds := [(0, 1, 1), (1, 2, 2)] }

/-- the renumbering deletion induces -/
def delπ (a : Nat) : Nat := if a = 0 then 0 else a - 1

example : delπ 0 = 0 ∧ delπ 2 = 1 ∧ delπ 3 = 2 := by decide

/-- the hydrogen (atom 1, bonded to the carbon) and the floating chlorine are not retained -/
example : retained (exOpts true) (delMol 1 1 [(0, 1, 1)]) = [0, 2, 3]
    ∧ retained (exOpts true) (delMol 17 0 []) = [0, 2, 3]
    ∧ retained (exOpts false) (delMol 17 0 []) = [0, 1, 2, 3]
    ∧ retained (exOpts true) delMol' = [0, 1, 2] := by decide +kernel

/-- `MonoRel` holds between the molecule and its deletion, for arbitrary coordinates `X` of the
original (the deleted molecule's coordinates are `X` without the row of atom 1) -/
theorem delMol_monoRel (z d : Nat) (extra : List (Nat × Nat × Nat))
    (hzd : (z, d, extra) = (1, 1, [(0, 1, 1)]) ∨ (z, d, extra) = (17, 0, [])) (mult : α) (X : Nat → V3 α) :
    MonoRel (exOpts true) delπ (delMol z d extra) (Geo.ofCoords mult X) delMol'
      (Geo.ofCoords mult (fun a => X (if a = 0 then 0 else a + 1))) := by
  have hX : ∀ a ∈ [0, 2, 3], (if delπ a = 0 then 0 else delπ a + 1) = a := by decide
  -- in each of the two cases the retained atoms evaluate to `[0, 2, 3]` and every condition on them is closed
  rcases hzd with h | h <;> cases h <;>
    exact MonoRel.ofCoords mult X _ (by decide +kernel) (by decide +kernel) (by decide +kernel) (by decide +kernel)
      (by decide +kernel) (by decide +kernel) (fun a ha => congrArg X (hX a ha))

/-- so deleting the hydrogen, or the floating heavy atom, leaves every fingerprint unchanged -/
example (mult : α) (X : Nat → V3 α) (req : Option Int) (bits : Option Nat) :
    (runFp (exOpts true) delMol' (Geo.ofCoords mult (fun a => X (if a = 0 then 0 else a + 1)))
        >>= fun s => fingerprintAt (exOpts true) s req bits [])
      = (runFp (exOpts true) (delMol 17 0 []) (Geo.ofCoords mult X)
        >>= fun s => fingerprintAt (exOpts true) s req bits []) :=
  delete_floating_fingerprint_nomask (delMol_monoRel 17 0 [] (Or.inr rfl) mult X) req bits

example (mult : α) (X : Nat → V3 α) (req : Option Int) (bits : Option Nat) :
    (runFp (exOpts true) delMol' (Geo.ofCoords mult (fun a => X (if a = 0 then 0 else a + 1)))
        >>= fun s => fingerprintAt (exOpts true) s req bits [])
      = (runFp (exOpts true) (delMol 1 1 [(0, 1, 1)]) (Geo.ofCoords mult X)
        >>= fun s => fingerprintAt (exOpts true) s req bits []) :=
  delete_floating_fingerprint_nomask (delMol_monoRel 1 1 [(0, 1, 1)] (Or.inl rfl) mult X) req bits

/-- and the runs in question succeed (the statements above are not about two errors) -/
example (g : Geo) : ∃ s, runFp (exOpts true) (delMol 17 0 []) g = .ok s :=
  ⟨_, (runFp_ok_iff _ _ _ _).2 ⟨by decide +kernel, by decide +kernel, by decide +kernel, rfl⟩⟩

/-- the exclusion is needed: with it switched off the floating atom is retained and the molecule without
it has fewer retained atoms, so no `MonoRel` can hold, whatever the renumbering -/
example (π : Nat → Nat) (g g' : Geo) : ¬ MonoRel (exOpts false) π (delMol 17 0 []) g delMol' g' := by
  intro h
  have := congrArg List.length h.retained_eq
  rewrite [List.length_map] at this
  revert this
  decide +kernel

/-- **caveat** (`retained_eq` is a real hypothesis for hydrogens): `degree` is `GetDegree()`, which
counts explicit hydrogens.  A heavy atom whose only bonds are to hydrogens is retained before the
hydrogens are deleted (degree > 0) and is a floating atom afterwards (degree 0): here the carbon 0 of
C(0)–H(1), O(2)=Cl(3) is retained, but not once H(1) is deleted, so no `MonoRel` relates the two. -/
example (π : Nat → Nat) (g g' : Geo) :
    ¬ MonoRel (exOpts true) π
      { atoms := [⟨0, 6, 1, [1], [1]⟩, ⟨1, 1, 1, [9], [9]⟩, ⟨2, 8, 1, [2], [2]⟩, ⟨3, 17, 1, [4], [4]⟩],
        bonds := [(0, 1, 1), (2, 3, 2)] } g
      { atoms := [⟨0, 6, 0, [1], [1]⟩, ⟨1, 8, 1, [2], [2]⟩, ⟨2, 17, 1, [4], [4]⟩], bonds := [(1, 2, 2)] } g' := by
  intro h
  have := congrArg List.length h.retained_eq
  rewrite [List.length_map] at this
  revert this
  decide +kernel

end E3fpVerif.Props.C18
