import E3fpVerif.Model.Pipeline
import E3fpVerif.Lemmas.Digits
/-!
# C14 — conformer cut-off, conformer names, level keys

`firstN` (how many conformers are processed), `confName` (`<molecule>_<index>`, injective in the index),
`levelKeys` and `selectLevel` (which levels a result dictionary holds and which of them is picked).
-/
namespace E3fpVerif.Props.C14
open E3fpVerif

/-! the loop processes all conformers for `first = -1` or `first ≥ n`, else exactly `first` -/

theorem firstN_all (n : Nat) : firstN (-1) n = n := if_pos (Int.negSucc_lt_zero 0)

theorem firstN_ge (first : Int) (n : Nat) (h : (n : Int) ≤ first) : firstN first n = n := by
  have h0 : 0 ≤ first := Int.le_trans (Int.natCast_nonneg n) h
  rewrite [firstN, if_neg (Int.not_lt.mpr h0)]
  exact Nat.min_eq_right ((Int.le_toNat h0).mpr h)

theorem firstN_lt (first : Int) (n : Nat) (h0 : 0 ≤ first) (h : first < n) : (firstN first n : Int) = first := by
  rw [firstN, if_neg (Int.not_lt.mpr h0), Nat.min_eq_left (Int.toNat_le.mpr (Int.le_of_lt h)),
    Int.toNat_of_nonneg h0]

theorem firstN_le (first : Int) (n : Nat) : firstN first n ≤ n := by
  unfold firstN
  split
  · exact Nat.le_refl n
  · exact Nat.min_le_right _ _

/-- a suffix-free name is extended by `_<index>` -/
theorem confName_nosuffix (name : List Char) (h : NoSuffix name) (j : Nat) :
    confName name j = name ++ ['_'] ++ natDigits j := by
  unfold confName
  rw [h]

/-- names with a numeric suffix are re-parsed: the exclusion in the property is necessary -/
example : confName ['a', 'b', 'c', '_', '7'] 0 = ['a', 'b', 'c', '_', '0'] := by decide +kernel

/-- reading a printed index gives the index back -/
theorem digitsNat_natDigits (n : Nat) : digitsNat? (natDigits n) = some n := E3fpVerif.digitsNat_natDigits n

/-- distinct conformer indices give distinct conformer names (for every molecule name: the
re-parsed prefix does not depend on the index) -/
theorem confName_injective_all (name : List Char) (i j : Nat) (h : confName name i = confName name j) : i = j := by
  unfold confName at h
  simp only at h
  exact natDigits_injective i j (List.append_cancel_left h)

/-- for a suffix-free name, `name_i = name_j` only when `i = j` (as for every name: `confName_injective_all`) -/
theorem confName_injective (name : List Char) (_h : NoSuffix name) (i j : Nat)
    (he : confName name i = confName name j) : i = j :=
  confName_injective_all name i j he

/-- the names given to the conformers `0 .. k-1` of a molecule are pairwise distinct -/
theorem confNames_nodup (name : List Char) (k : Nat) : ((List.range k).map (confName name)).Nodup := by
  unfold List.Nodup
  rewrite [List.pairwise_map]
  refine (List.nodup_range (n := k)).imp ?_
  intro i j hij h
  exact hij (confName_injective_all name i j h)

example : NoSuffix ['a', 'b', 'c'] ∧ confName ['a', 'b', 'c'] 12 = ['a', 'b', 'c', '_', '1', '2'] := by decide +kernel

/-- the conformer index is recovered from the name -/
theorem confName_parse_index (name : List Char) (h : NoSuffix name) (j : Nat) :
    digitsNat? ((confName name j).drop (name.length + 1)) = some j := by
  rewrite [confName_nosuffix name h j]
  simp [E3fpVerif.digitsNat_natDigits]

theorem levelKeys_unbounded (b : Bool) : levelKeys (-1) b = [-1] := if_pos (.inl rfl)

theorem levelKeys_single (l : Int) : levelKeys l false = [l] := if_pos (.inr rfl)

theorem levelKeys_all (l : Int) (h : 0 ≤ l) :
    levelKeys l true = (List.range (l.toNat + 1)).map (fun (i : Nat) => Int.ofNat i) := by
  have : ¬ l = -1 := by omega
  simp [levelKeys, this]

/-- with all iterations kept, the keys are exactly the levels `0 ≤ k ≤ l` -/
theorem mem_levelKeys_all (l : Int) (h : 0 ≤ l) (k : Int) : k ∈ levelKeys l true ↔ 0 ≤ k ∧ k ≤ l := by
  rewrite [levelKeys_all l h]
  simp only [List.mem_map, List.mem_range, Int.ofNat_eq_natCast]
  constructor
  · rintro ⟨i, hi, rfl⟩
    exact ⟨Int.natCast_nonneg i, (Int.le_toNat h).1 (Nat.le_of_lt_succ hi)⟩
  · rintro ⟨h0, hl⟩
    exact ⟨k.toNat, Nat.lt_succ_of_le (Int.toNat_le_toNat hl), Int.toNat_of_nonneg h0⟩

example : levelKeys 3 true = [0, 1, 2, 3] := by decide +kernel

theorem levelKeys_ne_nil (l : Int) (a : Bool) : levelKeys l a ≠ [] := by
  unfold levelKeys
  split
  · exact List.cons_ne_nil _ _
  · exact fun e => Nat.succ_ne_zero _ (List.range_eq_nil.1 (List.map_eq_nil_iff.1 e))

theorem levelKeys_nodup (l : Int) (a : Bool) : (levelKeys l a).Nodup := by
  unfold levelKeys
  split
  · exact List.pairwise_singleton _ l
  · unfold List.Nodup
    rewrite [List.pairwise_map]
    refine (List.nodup_range (n := l.toNat + 1)).imp ?_
    intro i j hij h
    exact hij (Int.ofNat.inj h)

theorem level_mem_levelKeys (l : Int) (a : Bool) (h : -1 ≤ l) : l ∈ levelKeys l a := by
  by_cases h1 : l = -1
  · rewrite [h1, levelKeys_unbounded]
    exact List.mem_cons_self
  · cases a with
    | false => rewrite [levelKeys_single]; exact List.mem_cons_self
    | true =>
      have h0 : 0 ≤ l := Int.not_lt.1 fun hl => h1 (Int.le_antisymm (Int.le_of_lt_add_one hl) h)
      exact (mem_levelKeys_all l h0 l).mpr ⟨h0, Int.le_refl l⟩

/-- the requested level is the one selected (any legal level `l ≥ -1`) -/
theorem selectLevel_requested (l : Int) (a : Bool) (h : -1 ≤ l) : selectLevel (levelKeys l a) (some l) = some l := by
  unfold selectLevel
  simp only
  rw [if_pos (List.contains_iff_mem.2 (level_mem_levelKeys l a h))]

example : selectLevel (levelKeys 5 true) (some 5) = some 5 := by decide +kernel

/-- the bound `-1 ≤ l` is needed: an (illegal) level below `-1` with all iterations gives the key
set `[0]`, from which the fallback `max(keys)` is taken -/
example : selectLevel (levelKeys (-2) true) (some (-2)) = some 0 := by decide +kernel

end E3fpVerif.Props.C14
