import E3fpVerif.Gen.Defaults
import E3fpVerif.Lemmas.ConfigRT
/-!
# C20 — configuration values round-trip and defaults are coherent

`Gen.defaultsTable` is regenerated from /repo on every run: one row per place that declares a default
for an option documented in `defaults.cfg` (function signatures, `*_DEF` constants, argparse parsers,
the generator class).  A row is `(place, section, option, value declared there, value in the file)`, so `row.2.1` is
the section, `row.2.2.1` the option, `row.2.2.2.1` / `row.2.2.2.2` the two values; `Gen.cfgTable` is the file itself,
`(section, option, value)`.  Then the `str()` / `literal_eval` round trips of single values.
-/
namespace E3fpVerif.Props.C20
open E3fpVerif

/-- every declared default equals the packaged default (up to what the constructors identify) -/
theorem defaults_coherent :
    ∀ row ∈ Gen.defaultsTable, normalise row.2.2.1 row.2.2.2.1 = normalise row.2.2.1 row.2.2.2.2 := by
  -- string equality is slow to evaluate: `normalise` (two tests of the option name) is run only on rows whose values differ
  have H : ∀ row ∈ Gen.defaultsTable, row.2.2.2.1 = row.2.2.2.2 ∨
      normalise row.2.2.1 row.2.2.2.1 = normalise row.2.2.1 row.2.2.2.2 := by decide +kernel
  exact fun row h => (H row h).elim (congrArg _) id

/-- the table is not vacuous: it covers every documented option except `protonate` (which no Python argument
carries) and `bits` of the fingerprinting section (for which the table holds no declaration) -/
theorem defaults_cover :
    ∀ c ∈ Gen.cfgTable, c.2.1 = "protonate" ∨ (c.1 = "fingerprinting" ∧ c.2.1 = "bits") ∨
      ∃ row ∈ Gen.defaultsTable, row.2.1 = c.1 ∧ row.2.2.1 = c.2.1 := by
  decide +kernel

/-! ## `str` / `literal_eval` round trips -/

theorem rt_bool (b : Bool) : parseVal (showVal (.bool b)) = .bool b := by
  cases b <;> decide +kernel

theorem rt_none : parseVal (showVal .none) = .none := by decide +kernel

/-- reading the decimal text of a natural gives the natural back -/
theorem digitsNat_natDigits (n : Nat) : digitsNat? (natDigits n) = some n := E3fpVerif.digitsNat_natDigits n

/-- every integer option value survives `str` then `literal_eval` (negative ones included) -/
theorem rt_int (i : Int) : parseVal (showVal (.int i)) = .int i := parseVal_showInt i

example : parseVal (showVal (.int (-1))) = .int (-1) := rt_int (-1)
example : showVal (.int (-250)) = ['-', '2', '5', '0'] := by decide +kernel

/-- a string value comes back as itself provided its text is not one of the literal words, is not
read as an integer (also after a leading minus sign) and is not float text.
Partial: the side conditions are stated on the text rather than derived from a grammar of "ordinary"
strings; they are necessary (examples below). -/
theorem rt_str_partial (s : String)
    (h1 : s ≠ "True") (h2 : s ≠ "False") (h3 : s ≠ "None")
    (hd : digitsNat? s.toList = none)
    (hneg : ∀ r, s.toList = '-' :: r → digitsNat? r = none)
    (hf : isFloatText s.toList = false) :
    parseVal (showVal (.str s)) = .str s := by
  show parseVal s.toList = _
  rewrite [parseVal_text s h1 h2 h3 hd hneg, hf]; rfl

/-- non-vacuity: an ordinary string meets the side conditions -/
example : parseVal (showVal (.str "rdkit_mmff94")) = .str "rdkit_mmff94" := by
  -- a string literal is `String.ofList` of its characters: `toList` is read off it, not evaluated through the bytes
  refine rt_str_partial _ (by decide) (by decide) (by decide) ?_ ?_ ?_ <;> rw [String.toList_ofList]
  · decide
  · intro r h
    exact absurd (List.head_eq_of_cons_eq h) (by decide)
  · decide

/-- the side conditions are necessary: strings that look like other literals change type -/
example : parseVal (showVal (.str "12")) = .int 12 := by decide +kernel
example : parseVal (showVal (.str "-3")) = .int (-3) := by decide +kernel
example : parseVal (showVal (.str "None")) = .none := by decide +kernel
example : parseVal (showVal (.str "True")) = .bool true := by decide +kernel

/-- a float value (kept as its `repr`) comes back as itself when the text is float text and not an
integer text.  Partial in the same sense as `rt_str_partial`. -/
theorem rt_float_partial (s : String)
    (h1 : s ≠ "True") (h2 : s ≠ "False") (h3 : s ≠ "None")
    (hd : digitsNat? s.toList = none)
    (hneg : ∀ r, s.toList = '-' :: r → digitsNat? r = none)
    (hf : isFloatText s.toList = true) :
    parseVal (showVal (.float s)) = .float s := by
  show parseVal s.toList = _
  rewrite [parseVal_text s h1 h2 h3 hd hneg, hf]; rfl

example : parseVal (showVal (.float "-0.5")) = .float "-0.5" := by
  refine rt_float_partial _ (by decide) (by decide) (by decide) ?_ ?_ ?_ <;> rw [String.toList_ofList]
  · decide
  · intro r h
    cases h
    decide
  · decide

end E3fpVerif.Props.C20
